/-
  C08 — the torch facade agrees with numpy's ufunc semantics on integer tensors of every rank,
  hence numeric programs denote the same value and kind under both providers; every IR the
  expression compiler emits is accepted by both code generators.

  Every agreement theorem takes `h : Agree T NP` — "the abstract tensor library T computes,
  primitive by primitive, what the reference library NP does" — as a HYPOTHESIS (validated on
  every run by the micro-correspondence of vlib/c08.py against real torch and real numpy);
  nothing here is an axiom.

  The last section holds a second, small model: which IR nodes the two `_ir_to_source` accept.
  It stands here, not in `Model/C08.lean`, because it is stated over `Generated/C08Tables.lean`,
  which only this file imports.  `divLoop` likewise: reals are outside `den`, so torch's divide
  reduce loop is stated over an abstract element division.
-/
import Klong.Model.C08
import Klong.Generated.C08Tables
namespace Klong.C08

/-! ## fields of `NP` as equations

Those the facade's reduce, accumulate, floor and power paths call: a proof rewrites one field
without unfolding `NP`. -/

theorem NP_ew (op : EOp) (a b : Flat) : NP.ew op a b = ewWith op.ap a b := rfl
theorem NP_pow (a b : Flat) : NP.pow a b = ewWith (fun x y => x ^ y.toNat) a b := rfl
theorem NP_toInt (a : Flat) : NP.toInt a = a := rfl
theorem NP_floorF32 (a : Flat) : NP.floorF32 a = ⟨a.shape, a.data.map f32round⟩ := rfl
theorem NP_sum0 (R : Rows) :
    NP.sum0 R = ⟨R.inner, foldRows .add (List.replicate (prodN R.inner) 0) R.rows⟩ := rfl
theorem NP_prod0 (R : Rows) :
    NP.prod0 R = ⟨R.inner, foldRows .mul (List.replicate (prodN R.inner) 1) R.rows⟩ := rfl
theorem NP_sumAll (R : Rows) : NP.sumAll R = .scalar (R.rows.flatten.foldl (· + ·) 0) := rfl
theorem NP_amin (R : Rows) : NP.amin R = (minList R.rows.flatten).map Flat.scalar := rfl
theorem NP_amax (R : Rows) : NP.amax R = (maxList R.rows.flatten).map Flat.scalar := rfl
theorem NP_row (R : Rows) (i : Nat) : NP.row R i = R.rows[i]?.map (fun r => ⟨R.inner, r⟩) := rfl
theorem NP_tail (R : Rows) : NP.tail R = ⟨R.inner, R.rows.tail⟩ := rfl
theorem NP_stack (ts : List Flat) : NP.stack ts = stackRows ts := rfl
theorem NP_cumsum0_nil (inner : List Nat) : NP.cumsum0 ⟨inner, []⟩ = ⟨inner, []⟩ := rfl
theorem NP_cumsum0_cons (inner : List Nat) (r : List Int) (rs : List (List Int)) :
    NP.cumsum0 ⟨inner, r :: rs⟩ = ⟨inner, scanRows .add r rs⟩ := rfl
theorem NP_cumprod0_nil (inner : List Nat) : NP.cumprod0 ⟨inner, []⟩ = ⟨inner, []⟩ := rfl
theorem NP_cumprod0_cons (inner : List Nat) (r : List Int) (rs : List (List Int)) :
    NP.cumprod0 ⟨inner, r :: rs⟩ = ⟨inner, scanRows .mul r rs⟩ := rfl

/-- `Agree` lists every field of `Lib`: under `h : Agree T NP` a statement about the facade over
    `T` is a statement about the facade over `NP` -/
theorem Agree.eq {T N : Lib} (h : Agree T N) : T = N := by
  cases T
  cases N
  simp only [Lib.mk.injEq, funext_iff]
  -- one conjunct for each field of `Lib`, in the order of the structure
  exact ⟨h.ew,
    h.neg,
    h.pow,
    h.toInt,
    h.floorF32,
    h.sum0,
    h.prod0,
    h.sumAll,
    h.prodAll,
    h.cumsum0,
    h.cumprod0,
    h.amin,
    h.amax,
    h.row,
    h.tail,
    h.stack,
    h.flip0,
    h.slice0,
    h.cat0,
    h.tile0⟩

/-! ## rows -/

theorem vop_sub_add (r acc x : List Int) :
    vop .sub r (vop .add acc x) = vop .sub (vop .sub r acc) x := by
  simp only [vop]
  induction r generalizing acc x with
  | nil => simp
  | cons a r ih => cases acc <;> cases x <;> simp [ih, EOp.ap, Int.sub_sub]

/-- `r − (acc + x1 + … + xn) = ((r − acc) − x1) − … − xn` -/
theorem sub_foldAdd (rs : List (List Int)) (acc r : List Int) :
    vop .sub r (foldRows .add acc rs) = foldRows .sub (vop .sub r acc) rs := by
  induction rs generalizing acc with
  | nil => rfl
  | cons x rs ih =>
    simp only [foldRows, List.foldl_cons] at ih ⊢
    rw [ih, vop_sub_add]

theorem vop_sub_zeros (r : List Int) : vop .sub r (List.replicate r.length 0) = r := by
  induction r with
  | nil => rfl
  | cons a r ih => simpa [vop, List.replicate_succ, EOp.ap] using ih

theorem wf_head {inner : List Nat} {r : List Int} {rs : List (List Int)}
    (hw : Rows.wf ⟨inner, r :: rs⟩ = true) : r.length = prodN inner := by
  simp only [Rows.wf, List.all_cons, Bool.and_eq_true, beq_iff_eq] at hw
  exact hw.1

theorem scanRows_ne_nil (op : EOp) (acc : List Int) (rs : List (List Int)) :
    scanRows op acc rs ≠ [] := by
  cases rs <;> simp [scanRows]

theorem stackRows_map (inner : List Nat) (l : List (List Int)) (hl : l ≠ []) :
    stackRows (l.map (fun d => (⟨inner, d⟩ : Flat))) = some ⟨inner, l⟩ := by
  cases l with
  | nil => exact absurd rfl hl
  | cons d ds => simp [stackRows, List.all_map, Function.comp_def]

theorem accLoop_scan (op : EOp) (R : Rows) (rest : List (List Int)) (i : Nat) (acc : List Int)
    (hd : R.rows.drop i = rest) :
    accLoop NP op R rest.length i ⟨R.inner, acc⟩
      = some ((scanRows op acc rest).map (fun d => (⟨R.inner, d⟩ : Flat))) := by
  induction rest generalizing i acc with
  | nil => rfl
  | cons x rest ih =>
    have hi : R.rows[i]? = some x := by simpa [List.head?_drop] using congrArg List.head? hd
    have hd' : R.rows.drop (i + 1) = rest := by simpa [List.tail_drop] using congrArg List.tail hd
    have hew : NP.ew op ⟨R.inner, acc⟩ ⟨R.inner, x⟩ = some ⟨R.inner, vop op acc x⟩ := if_pos rfl
    simp only [List.length_cons, accLoop, NP_row, hi, Option.map_some, Option.bind_some, hew,
      ih (i + 1) _ hd', scanRows, List.map_cons]

theorem foldRows_singletons (op : EOp) {rows : List (List Int)} (hr : ∀ r ∈ rows, r.length = 1)
    (acc : Int) :
    foldRows op [acc] rows = [rows.flatten.foldl op.ap acc] := by
  induction rows generalizing acc with
  | nil => rfl
  | cons r rs ih =>
    obtain ⟨x, rfl⟩ := List.length_eq_one_iff.mp (hr r (by simp))
    simpa [foldRows, vop] using ih (fun r h => hr r (by simp [h])) (op.ap acc x)

/-! ## the facade over `NP` is numpy's ufunc semantics -/

theorem facadeUfunc_NP : facadeUfunc NP = npUfunc := by
  funext op a b
  -- every clause of `facadeUfunc` is one call of `ew`, on tensors as they are and Python scalars
  -- lifted; `.eq` of two Python scalars calls nothing and gives what `NP.ew` gives on them lifted
  cases op <;> cases a <;> cases b <;> rfl

theorem power_NP : power NP = npPower := by
  funext a b
  -- a tensor base goes through `pow`; a Python-scalar base through `NP.pow` under either library
  cases a <;> rfl

theorem facadeReduce_NP (op : AOp) (R : Rows) (hw : R.wf = true) :
    facadeReduce NP op R = npReduce op R := by
  -- `sum0`, `prod0`, `amin`, `amax` are `npReduce`'s clauses in `NP`; `sub` goes through `row`,
  -- `tail`, `sum0` and `ew`
  cases op with
  | add | mul | min | max | div => rfl
  | sub =>
    obtain ⟨inner, _ | ⟨r, rs⟩⟩ := R
    · rfl
    · -- `a[0] − sum(a[1:], dim=0)` against the left fold of `−` from `a[0]`
      have key : vop .sub r (foldRows .add (List.replicate (prodN inner) 0) rs)
          = foldRows .sub r rs := by
        rw [sub_foldAdd, ← wf_head hw, vop_sub_zeros]
      -- both operands of `ew` have shape `inner`, so it is `vop` on the data
      exact (if_pos rfl).trans (congrArg (fun d => some (⟨inner, d⟩ : Flat)) key)

theorem facadeAccumulate_NP (op : AOp) (R : Rows) (hne : R.rows ≠ []) :
    facadeAccumulate NP op R = npAccumulate op R := by
  obtain ⟨inner, _ | ⟨r, rs⟩⟩ := R
  · exact absurd rfl hne
  · -- `cumsum0` and `cumprod0` are `scanRows` in `NP`; `min`, `max`, `div` have no accumulate
    -- on either side; `sub` is `row`, the loop over `row` and `ew`, then `stack`
    cases op with
    | add | mul | min | max | div => rfl
    | sub =>
      have := accLoop_scan .sub ⟨inner, r :: rs⟩ rs 1 r rfl
      simp [facadeAccumulate, npAccumulate, AOp.arith, NP_row, NP_stack, this,
        stackRows_map inner (scanRows .sub r rs) (scanRows_ne_nil .sub r rs)]

/-! ## the facade over an agreeing library -/

/-- the hypothesis of the theorems below is satisfiable -/
theorem agree_refl : Agree NP NP := by
  constructor <;> intros <;> rfl

/-- TorchUfunc.__call__, minimum/maximum, less/greater and safe_equal: every operand mix (tensor
    or Python scalar on either side) ends in the element-wise computation numpy performs -/
theorem facade_ufunc_agrees {T : Lib} (h : Agree T NP) (op : EOp) (a b : Arg) :
    facadeUfunc T op a b = npUfunc op a b := by
  cases h.eq
  rw [facadeUfunc_NP]

example : facadeUfunc NP .max (.py 3) (.tn ⟨[3], [1, 5, 2]⟩) = some ⟨[3], [3, 5, 3]⟩ := by decide

/-- TorchUfunc.reduce after the repair (`axis=0`; subtract as `a[0] − sum(a[1:], dim=0)`)
    is numpy's ufunc.reduce along axis 0 on every well-formed integer tensor of rank ≥ 1 -/
theorem facade_reduce_agrees {T : Lib} (h : Agree T NP) (op : AOp) (R : Rows) (hw : R.wf = true) :
    facadeReduce T op R = npReduce op R := by
  cases h.eq
  exact facadeReduce_NP op R hw

example : facadeReduce NP .sub ⟨[2], [[1, 2], [3, 4]]⟩ = some ⟨[2], [-2, -2]⟩ := by decide
example : facadeReduce NP .add ⟨[2], [[1, 2], [3, 4]]⟩ = some ⟨[2], [4, 6]⟩ := by decide

/-- TorchUfunc.accumulate: cumsum / cumprod and the `cumulative_subtract` loop followed by
    torch.stack are numpy's ufunc.accumulate along axis 0.  (`hop` is not used: for `& | %` both
    sides are `none`.) -/
theorem facade_accumulate_agrees {T : Lib} (h : Agree T NP) (op : AOp) (R : Rows)
    (hop : op = .add ∨ op = .sub ∨ op = .mul) (hne : R.rows ≠ []) :
    facadeAccumulate T op R = npAccumulate op R := by
  cases h.eq
  exact facadeAccumulate_NP op R hne

example : facadeAccumulate NP .sub ⟨[2], [[1, 2], [3, 4], [10, 20]]⟩
    = some ⟨[2], [[1, 2], [-2, -2], [-12, -22]]⟩ := by decide

/-- floor_to_int after the repair returns an integer tensor as it is, like numpy's -/
theorem floor_agrees {T : Lib} (h : Agree T NP) (a : Arg) : floorToInt T a = npFloor a := by
  cases h.eq
  -- `toInt`, the identity in `NP`
  rfl

example : floorToInt NP (.py 16777217) = some (.scalar 16777217) := by decide

/-- TorchBackendProvider.power on non-negative integer exponents: Tensor.pow for a tensor
    base, numpy.power for a Python-scalar base — numpy's power either way -/
theorem power_agrees {T : Lib} (h : Agree T NP) (a b : Arg) : power T a b = npPower a b := by
  cases h.eq
  rw [power_NP]

example : power NP (.tn ⟨[3], [1, 2, 3]⟩) (.py 2) = some ⟨[3], [1, 4, 9]⟩ := by decide

/-- TorchUfunc.reduce for divide: `result = rows[0]; for x in rows[1:]: result = result / x`,
    over whatever the element division `dv` computes (float32 or float64) -/
def divLoop {α : Type} (dv : α → α → α) : α → List α → α
  | acc, [] => acc
  | acc, x :: xs => divLoop dv (dv acc x) xs

/-- … which is the left fold numpy's divide.reduce performs along axis 0 -/
theorem divide_loop_is_fold {α : Type} (dv : α → α → α) (r : α) (rs : List α) :
    divLoop dv r rs = rs.foldl dv r := by
  induction rs generalizing r with
  | nil => rfl
  | cons x xs ih => simp [divLoop, ih]

/-! ## programs -/

theorem provider_agrees {T : Lib} (h : Agree T NP) : (torchP T).guard = numpyP.guard := by
  cases h.eq
  unfold Provider.guard torchP numpyP
  dsimp only
  rw [facadeUfunc_NP, power_NP]
  -- the fields left are those whose `_NP` equation has a hypothesis, which the guard supplies
  congr 1
  · -- `reduce`: the guard is `R.wf`
    funext op R
    split
    next hw => rw [facadeReduce_NP op R hw]
    next => rfl
  · -- `accumulate`: the guard is `R.wf && !R.rows.isEmpty`
    funext op R
    split
    next hg =>
      rw [Bool.and_eq_true] at hg
      rw [facadeAccumulate_NP op R (by simpa using hg.2)]
    next => rfl

/-- a program of the numeric core grammar denotes the same value, shape and integer/real kind
    under the torch facade and under numpy, for every environment (`den` reaches a provider only
    through its guarded calls, so `provider_agrees` lifts through the whole grammar at once) -/
theorem program_agrees {T : Lib} (h : Agree T NP) (e : Expr) (env : List V) :
    den (torchP T) e env = den numpyP e env := by
  simp only [den, provider_agrees h]

example : den (torchP NP) (.over .sub (.var 0)) [.tn ⟨[2, 2], [1, 2, 3, 4]⟩]
    = .ok (.tn ⟨[2], [-2, -2]⟩) := by decide

example : den numpyP (.each (.dy .add (.var 3) (.lit 1)) (.scan .add (.var 0))) [.tn ⟨[3], [1, 2, 3]⟩, .py 0, .py 0]
    = .ok (.tn ⟨[3], [2, 4, 7]⟩) := by decide

/-! ## the pinned tree violates the property: witnesses -/

/-- Over with minus on `[[1 2] [3 4]]`: `a[0] − torch.sum(a[1:])` gives `[-6 -5]`, numpy `[-2 -2]` -/
theorem pinned_reduce_sub_disagrees :
    facadeReducePinned NP .sub ⟨[2], [[1, 2], [3, 4]]⟩ = some ⟨[2], [-6, -5]⟩ ∧
    npReduce .sub ⟨[2], [[1, 2], [3, 4]]⟩ = some ⟨[2], [-2, -2]⟩ := by decide

/-- `+/[[1 2] [3 4]]`: `torch.sum(a)` gives `10`, numpy `[4 6]` -/
theorem pinned_reduce_add_disagrees :
    facadeReducePinned NP .add ⟨[2], [[1, 2], [3, 4]]⟩ = some (.scalar 10) ∧
    npReduce .add ⟨[2], [[1, 2], [3, 4]]⟩ = some ⟨[2], [4, 6]⟩ := by decide

/-- on vectors (rank 1) the pinned reduce was right: summing all the remaining elements is
    summing along axis 0 -/
theorem pinned_reduce_rank1_partial {T : Lib} (h : Agree T NP) (R : Rows) (hw : R.wf = true)
    (h1 : R.inner = []) (op : AOp) (hop : op = .add ∨ op = .sub) :
    facadeReducePinned T op R = npReduce op R := by
  cases h.eq
  obtain ⟨inner, rows⟩ := R
  subst h1
  have hr : ∀ r ∈ rows, r.length = 1 := by simpa [Rows.wf, prodN] using hw
  -- in both cases the two sides unfold to `some ⟨[], d⟩`; left is the equation between the data
  rcases hop with rfl | rfl
  · exact congrArg (fun d => some (⟨[], d⟩ : Flat)) (foldRows_singletons .add hr 0).symm
  · cases rows with
    | nil => rfl
    | cons r rs =>
      obtain ⟨x, rfl⟩ := List.length_eq_one_iff.mp (hr r (by simp))
      -- `x − (0 + l₁ + … + lₙ)` is the left fold of `−` from `x`
      have := sub_foldAdd rs [0] [x]
      rw [foldRows_singletons .add fun r h => hr r (by simp [h])] at this
      simp only [vop, List.zipWith_cons_cons, List.zipWith_nil_right, EOp.ap, Int.sub_zero] at this
      exact congrArg (fun d => some (⟨[], d⟩ : Flat)) this

example : facadeReducePinned NP .sub ⟨[], [[5], [1], [2]]⟩ = some ⟨[], [2]⟩ := by decide

/-- `_16777217`: `floor(a.float())` rounds to float32 and gives 16777216 -/
theorem pinned_floor_disagrees :
    floorToIntPinned NP (.py 16777217) = some (.scalar 16777216) ∧
    npFloor (.py 16777217) = some (.scalar 16777217) := by decide

/-- below 2^24 the pinned floor was right -/
theorem pinned_floor_partial {T : Lib} (h : Agree T NP) (n : Int) (hn : n.natAbs < 2 ^ 24) :
    floorToIntPinned T (.py n) = npFloor (.py n) := by
  cases h.eq
  simp [floorToIntPinned, npFloor, NP_floorF32, Arg.lift, Flat.scalar, f32round, hn]

-- the hypothesis of `pinned_floor_partial` is met
example : (5 : Int).natAbs < 2 ^ 24 := by decide

/-- known finding (not repaired): `%\` of a single integer row keeps the integer kind on
    torch and is real on numpy; with two or more rows, or a real operand, the kinds agree -/
theorem scan_divide_single_row_kind_differs :
    facadeScanDivKind 1 .int ≠ npScanDivKind 1 .int ∧
    (∀ n k, n ≠ 1 ∨ k = .real → facadeScanDivKind n k = npScanDivKind n k) := by
  refine ⟨by decide, fun n k hk => ?_⟩
  rcases hk with hn | rfl <;> simp [facadeScanDivKind, npScanDivKind, *]

/-! ## every compilable program is accepted by both backends -/

open Klong.Generated.C08

/-- the IR of klongpy/compiler.py (`_ast_to_ir`) -/
inductive IR
  | literal
  | var
  | binop (op : String) (l r : IR)
  | cmp (op : String) (l r : IR)
  | negate (c : IR)
  | reduce (op : String) (a : IR)
  | scan (op : String) (a : IR)

/-- what `_ast_to_ir` can return: operators drawn from the compiler's own sets -/
def Emittable : IR → Prop
  | .literal => True
  | .var => True
  | .binop op l r => op ∈ compilerArith ∧ Emittable l ∧ Emittable r
  | .cmp op l r => op ∈ compilerCmp ∧ Emittable l ∧ Emittable r
  | .negate c => Emittable c
  | .reduce op a => op ∈ compilerReduceScan ∧ Emittable a
  | .scan op a => op ∈ compilerReduceScan ∧ Emittable a

inductive Outcome
  | code        -- a Python source string: compile_expr_ir returns a callable
  | fallback    -- `_ir_to_source` returns None: compile_expr_ir returns None, the interpreter runs
  | raises      -- KeyError / unhandled node: the backend does not accept the program
deriving DecidableEq, Repr

structure Tables where
  kinds : List String
  binop : List String
  cmp : List String
  reduce : List String
  scan : List String
  missingIsNone : Bool
  defaultIsNone : Bool

def numpyTables : Tables := ⟨numpyKinds, numpyBinop, numpyCmp, numpyReduce, numpyScan, numpyMissingIsNone, numpyDefaultIsNone⟩
def torchTables : Tables := ⟨torchKinds, torchBinop, torchCmp, torchReduce, torchScan, torchMissingIsNone, torchDefaultIsNone⟩

def Outcome.seq : Outcome → Outcome → Outcome
  | .raises, _ => .raises
  | .fallback, _ => .fallback        -- `if l is None or r is None: return None` (l is evaluated first)
  | .code, o => o

def lookup (t : Tables) (tbl : List String) (op : String) : Outcome :=
  if op ∈ tbl then .code else if t.missingIsNone then .fallback else .raises

def unhandled (t : Tables) : Outcome := if t.defaultIsNone then .fallback else .raises

/-- `_ir_to_source` of one backend, as far as acceptance goes.  A kind's table is the union of
    the literal dictionaries its branch tries in turn (`+ - *` as Python operators, then `% ^`
    as calls of the verbs; `+ *` as ufunc.reduce, then `| &` guarded), as the translator reads
    them; `missingIsNone` says every such chain ends in `return None`. -/
def gen (t : Tables) : IR → Outcome
  | .literal => if "literal" ∈ t.kinds then .code else unhandled t
  | .var => if "var" ∈ t.kinds then .code else unhandled t
  | .binop op l r =>
    if "binop" ∈ t.kinds then
      match (gen t l).seq (gen t r) with
      | .code => lookup t t.binop op
      | o => o
    else unhandled t
  | .cmp op l r =>
    if "cmp" ∈ t.kinds then
      match (gen t l).seq (gen t r) with
      | .code => lookup t t.cmp op
      | o => o
    else unhandled t
  | .negate c => if "negate" ∈ t.kinds then gen t c else unhandled t
  | .reduce op a =>
    if "reduce" ∈ t.kinds then
      match gen t a with
      | .code => lookup t t.reduce op
      | o => o
    else unhandled t
  | .scan op a =>
    if "scan" ∈ t.kinds then
      match gen t a with
      | .code => lookup t t.scan op
      | o => o
    else unhandled t

/-- facts about the regenerated tables, decided by the kernel on every run -/
theorem tables_facts :
    (compilerKinds.all (fun k => k ∈ torchKinds ∧ k ∈ numpyKinds) = true) ∧
    (compilerArith.all (fun o => o ∈ torchBinop) = true) ∧
    (compilerCmp.all (fun o => o ∈ torchCmp) = true) ∧
    (compilerReduceScan.all (fun o => o ∈ torchReduce ∧ o ∈ torchScan) = true) ∧
    numpyMissingIsNone = true ∧ numpyDefaultIsNone = true ∧
    torchMissingIsNone = true ∧ torchDefaultIsNone = true ∧
    (["literal", "var", "binop", "cmp", "negate", "reduce", "scan"].all (fun k => k ∈ compilerKinds) = true) := by
  decide

-- the `match` in every branch of `gen`
theorem match_code_eq_seq (o x : Outcome) : (match o with | .code => x | o => o) = o.seq x := by
  cases o <;> rfl

theorem Outcome.seq_ne_raises {a b : Outcome} (ha : a ≠ .raises) (hb : b ≠ .raises) :
    a.seq b ≠ .raises := by
  cases a <;> simp_all [Outcome.seq]

theorem ite_ne_raises {c : Prop} [Decidable c] {a b : Outcome} (ha : a ≠ .raises)
    (hb : b ≠ .raises) : (if c then a else b) ≠ .raises := by
  split <;> assumption

/-- a backend whose every dictionary chain ends in `return None` never raises, on any IR -/
theorem never_raises (t : Tables) (hm : t.missingIsNone = true) (hd : t.defaultIsNone = true) (ir : IR) :
    gen t ir ≠ .raises := by
  have hl : ∀ tbl op, lookup t tbl op ≠ .raises := by simp [lookup, hm, ite_ne_raises]
  have hu : unhandled t ≠ .raises := by simp [unhandled, hd]
  induction ir with
  | literal | var => exact ite_ne_raises (by simp) hu
  | binop op l r ihl ihr | cmp op l r ihl ihr =>
    simp only [gen, match_code_eq_seq]
    exact ite_ne_raises (Outcome.seq_ne_raises (Outcome.seq_ne_raises ihl ihr) (hl _ _)) hu
  | negate c ih => exact ite_ne_raises ih hu
  | reduce op a ih | scan op a ih =>
    simp only [gen, match_code_eq_seq]
    exact ite_ne_raises (Outcome.seq_ne_raises ih (hl _ _)) hu

theorem gen_code_of_covers (t : Tables)
    (hk : ∀ k ∈ ["literal", "var", "binop", "cmp", "negate", "reduce", "scan"], k ∈ t.kinds)
    (hb : ∀ o ∈ compilerArith, o ∈ t.binop) (hc : ∀ o ∈ compilerCmp, o ∈ t.cmp)
    (hrs : ∀ o ∈ compilerReduceScan, o ∈ t.reduce ∧ o ∈ t.scan)
    (ir : IR) (he : Emittable ir) : gen t ir = .code := by
  simp only [List.forall_mem_cons] at hk
  induction ir with
  | literal | var => simp [gen, hk]
  | binop op l r ihl ihr | cmp op l r ihl ihr =>
    simp [gen, hk, ihl he.2.1, ihr he.2.2, Outcome.seq, lookup, hb, hc, he.1]
  | negate c ih => simpa [gen, hk] using ih he
  | reduce op a ih | scan op a ih => simp [gen, hk, ih he.2, lookup, hrs op he.1]

/-- every program built only from operations the expression compiler handles is accepted by
    both backends: neither `_ir_to_source` can raise on an emitted IR — an operator missing from
    a table (numpy has no `|\` `&\`) makes it return None, i.e. the interpreter path.
    (`_he` is not used: by `never_raises` no IR at all makes either raise.) -/
theorem compilable_accepted_by_both (ir : IR) (_he : Emittable ir) :
    gen numpyTables ir ≠ .raises ∧ gen torchTables ir ≠ .raises := by
  obtain ⟨-, -, -, -, hnm, hnd, htm, htd, -⟩ := tables_facts
  exact ⟨never_raises numpyTables hnm hnd ir, never_raises torchTables htm htd ir⟩

/-- the torch table is complete: it generates code for every IR the compiler can emit -/
theorem torch_generates_code_for_every_emittable (ir : IR) (he : Emittable ir) :
    gen torchTables ir = .code := by
  obtain ⟨hkinds, harith, hcmp, hrs, -, -, -, -, hall⟩ := tables_facts
  simp only [List.all_eq_true, decide_eq_true_eq] at hkinds harith hcmp hrs hall
  exact gen_code_of_covers torchTables (fun k hk => (hkinds k (hall k hk)).1) harith hcmp hrs ir he

example : Emittable (.scan "|" (.binop "+" .var .literal)) := by
  simp [Emittable, compilerArith, compilerReduceScan]

example : gen numpyTables (.scan "|" .var) = .fallback ∧ gen torchTables (.scan "|" .var) = .code := by decide

end Klong.C08
