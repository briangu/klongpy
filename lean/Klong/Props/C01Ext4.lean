/-
  C01 extension 4 — property theorems: implementation model (Klong.Model.C01Ext4, mirroring
  dyads.py / base.py / writer.py of /repo with a53617e, 0164c67, 0e3a9ac, 05f1070) = reference
  (Ext4.refDyad / Ext4.refMonad, the manual text transcribed) wherever the reference is defined,
  for every nesting depth, list length and size.

  Hypotheses that appear in the statements (all decidable):
  * `Ext1.notStored x = false` — the literal `x` is what the interpreter holds;
  * `Ext3.clashFree v = true` — `kg_asarray` of the formatted members does not broadcast member
    arrays whose shapes agree on leading dimensions only (`Ext1.objArrayClash`).
  The decimal texts of real numbers (`pyFloatStr`, `fixedParts`: exact integer arithmetic on the
  decoded double) are shared by reference and model and tied to CPython by the differential run
  only; the bit-level floor is proved to be the floor (`floorInt_spec`).
-/
import Klong.Model.C01Ext4
import Klong.Props.C01Ext2
import Klong.Props.C01Ext3
namespace Klong.C01.Ext4

/-! ## dispatch -/

theorem refDyad_format2 : refDyad "$" = refFormat2 := rfl
theorem implDyad_format2 : implDyad "$" = implFormat2 := rfl
theorem refMonad_floor : refMonad "_" = refFloor := rfl
theorem implMonad_floor : implMonad "_" = implFloor := rfl

/-! ## Format2 on atoms -/

theorem padTo_zero (t : List Nat) : padTo 0 t = t := by
  simp [padTo, ljust, blanks]

/-- a size that is an integer, any object monadic `$` can write (integers, characters, strings,
    symbols, reals in positional notation): padded on the side the examples show -/
theorem format2_int_atom (n : Int) (b v : Val) (h : fmt2Atom (.int n) b = some v) :
    f2Atom (.int n) b = .ok v := by
  simp only [fmt2Atom, Option.map_eq_some_iff] at h
  obtain ⟨t, ht, rfl⟩ := h
  simp only [f2Atom, pyStrB, ht]
  split
  · rename_i h0
    simp [h0, padTo_zero]
  · rfl

/-- what "a size of the form n.m" says of the size: positive, not below 1, and Python reads its
    text as the format specification width `n`, precision `m ≥ 1` -/
theorem formNM_some {bits : UInt64} {n m : Nat} (h : formNM bits = some (n, m)) :
    ∃ d, decode bits = some d ∧ truncZero d = false ∧ specOf d = some (false, n, m) ∧ 1 ≤ m := by
  unfold formNM at h
  split at h
  · cases h
  next d hd =>
    obtain ⟨hpos, h⟩ := Option.ite_none_left_eq_some.mp h
    split at h
    next D k hsp =>
      simp only [Option.ite_none_right_eq_some, Option.some.injEq, Prod.mk.injEq] at h
      obtain ⟨hc, rfl, rfl⟩ := h
      have hneg : d.neg = false ∧ ¬ d.m = 0 := by simpa using hpos
      exact ⟨d, hd, by simpa using hc.2.1, by simp [specOf, hsp, hneg.1],
        Nat.le_trans (Nat.pow_pos (by decide)) hc.2.2⟩
    · cases h

/-- of `fixedOk` only `m ≤ 15` is kept: it puts `m` below the precision 60 from which `f2Atom`
    is not modelled -/
theorem refFixed_some {n m : Nat} {bits : UInt64} {t : List Nat} (h : refFixed n m bits = some t) :
    ∃ d, decode bits = some d ∧ m ≤ 15 ∧
      t = rjust (fixedParts d m).1 n ++ [46] ++ (fixedParts d m).2 := by
  unfold refFixed at h
  split at h
  · cases h
  next d hd =>
    rw [Option.ite_none_right_eq_some] at h
    simp only [fixedOk, Bool.and_eq_true, decide_eq_true_eq] at h
    exact ⟨d, hd, h.1.1, (Option.some.inj h.2).symm⟩

/-- a size of the form n.m and a real object: n integer digits, m fractional digits -/
theorem format2_real_atom (abits bbits : UInt64) (v : Val)
    (h : fmt2Atom (.real abits) (.real bbits) = some v) :
    f2Atom (.real abits) (.real bbits) = .ok v := by
  rw [fmt2Atom] at h
  split at h
  next n m hnm =>
    obtain ⟨t, ht, rfl⟩ := Option.map_eq_some_iff.mp h
    obtain ⟨da, hda, htz, hspec, hm1⟩ := formNM_some hnm
    obtain ⟨db, hdb, hm15, rfl⟩ := refFixed_some ht
    have hm60 : ¬ (m > 60) := by omega
    have hm0 : ¬ (m = 0) := by omega
    simp [f2Atom, hda, htz, hspec, hdb, hm60, hm0]
  · cases h

/-- **format2_atom_correct**: wherever the reference defines Format2 of two atoms (strings are
    atoms here), the scalar formatter returns exactly that text -/
theorem format2_atom_correct (a b v : Val) (h : fmt2Atom a b = some v) : f2Atom a b = .ok v := by
  cases a with
  | int n => exact format2_int_atom n b v h
  | real abits =>
    cases b with
    | real bbits => exact format2_real_atom abits bbits v h
    | _ => cases h
  | _ => cases h

/-! ## Format2 through lists: atomic extension -/

/-- the step the three list clauses of `implF2` share: the member results are the reference's
    (`ih`) and its list `v` is free of clashes, so `kg_asarray` (`pack`) returns `v` as it is -/
theorem pack_ok_of_clashFree {o : Option (List Val)} {r : Res} {v : Val}
    (h : o.map Val.list = some v) (hc : Ext3.clashFree v = true)
    (ih : ∀ vs, o = some vs → Ext3.clashFreeL vs = true → r = .ok (.list vs)) : pack r = .ok v := by
  obtain ⟨vs, hvs, rfl⟩ := Option.map_eq_some_iff.mp h
  simp only [Ext3.clashFree, Bool.and_eq_true, Bool.not_eq_true'] at hc
  simp [ih vs hvs hc.2, pack, Ext3.repackText, hc.1]

/-- the four mutually recursive statements: the implementation's pairing / extension (vec_fn2 for
    object arrays, `_e_dyad_format2` with Python's zip for arrays of numbers) yields the
    reference's atomic extension -/
theorem implF2_eq :
    (∀ a b, ∀ v, refA2 fmt2Atom a b = some v → Ext3.clashFree v = true → implF2 a b = .ok v) ∧
    (∀ a ys, ∀ vs, refMapR fmt2Atom a ys = some vs → Ext3.clashFreeL vs = true →
      implF2MapR a ys = .ok (.list vs)) ∧
    (∀ xs b, ∀ vs, refMapL fmt2Atom xs b = some vs → Ext3.clashFreeL vs = true →
      implF2MapL xs b = .ok (.list vs)) ∧
    (∀ xs ys, ∀ vs, refZip fmt2Atom xs ys = some vs → Ext3.clashFreeL vs = true →
      implF2Zip xs ys = .ok (.list vs)) := by
  -- cases in the clause order of `refA2` (1–4: two lists; a list and no list; no list and a list;
  -- two atoms — `implF2.eq_2`…`eq_4` are the last three of these clauses in `implF2`), `refMapR`
  -- (5, 6), `refMapL` (7, 8), `refZip` (9–11): `[]`, then `cons`, and for `refZip` the catch-all
  -- `refZip.eq_3` (one list longer than the other: `none`)
  apply refA2.mutual_induct
  case case1 =>
    -- two lists: where `refZip` is defined the lengths agree, so the length test does not raise
    intro xs ys ih v h hc
    rw [refA2_list_list] at h
    obtain ⟨vs, hvs, -⟩ := Option.map_eq_some_iff.mp h
    simp [implF2, refZip_length fmt2Atom xs ys vs hvs, pack_ok_of_clashFree h hc ih]
  case case2 =>
    intro xs b hb ih v h hc
    rw [refA2_list_left _ _ hb] at h
    rw [implF2.eq_2 _ _ hb, pack_ok_of_clashFree h hc ih]
  case case3 =>
    intro a ys ha ih v h hc
    rw [refA2_list_right _ _ ha] at h
    rw [implF2.eq_3 _ _ ha, pack_ok_of_clashFree h hc ih]
  case case4 =>
    intro a b hab ha hb v h _
    rw [refA2_atom _ ha hb] at h
    rw [implF2.eq_4 _ _ ha hb hab]
    exact format2_atom_correct a b v h
  case case5 =>
    intro a vs h _
    rw [refMapR] at h
    cases h
    rw [implF2MapR]
  case case6 =>
    intro a y ys ih1 ih2 vs h hc
    obtain ⟨r, rs, hr, hrs, rfl⟩ := refMapR_cons_eq_some h
    simp only [Ext3.clashFreeL, Bool.and_eq_true] at hc
    rw [implF2MapR, ih1 r hr hc.1, ih2 rs hrs hc.2, consRes]
  case case7 =>
    intro b vs h _
    rw [refMapL] at h
    cases h
    rw [implF2MapL]
  case case8 =>
    intro x xs b ih1 ih2 vs h hc
    obtain ⟨r, rs, hr, hrs, rfl⟩ := refMapL_cons_eq_some h
    simp only [Ext3.clashFreeL, Bool.and_eq_true] at hc
    rw [implF2MapL, ih1 r hr hc.1, ih2 rs hrs hc.2, consRes]
  case case9 =>
    intro vs h _
    rw [refZip] at h
    cases h
    rw [implF2Zip]
  case case10 =>
    intro x xs y ys ih1 ih2 vs h hc
    obtain ⟨r, rs, hr, hrs, rfl⟩ := refZip_cons_eq_some h
    simp only [Ext3.clashFreeL, Bool.and_eq_true] at hc
    rw [implF2Zip, ih1 r hr hc.1, ih2 rs hrs hc.2, consRes]
  case case11 =>
    intro xs ys h1 h2 vs h _
    rw [refZip.eq_3 _ _ _ h1 h2] at h
    cases h

/-- **format2_correct**: Format2 `a$b` — integer sizes of either sign (and 0) with integers,
    characters, strings, symbols and reals; sizes n.m with reals — through ANY nesting depth and any
    mixture of numeric and object arrays, a list of sizes against one string included: the
    implementation returns what the reference prescribes -/
theorem format2_correct (a b v : Val) (h : refDyad "$" a b = some v)
    (hsa : Ext1.notStored a = false) (hsb : Ext1.notStored b = false)
    (hc : Ext3.clashFree v = true) : implDyad "$" a b = .ok v := by
  rw [refDyad_format2, refFormat2] at h
  split at h
  · cases h
  · simp [implDyad_format2, implFormat2, hsa, hsb, implF2_eq.1 a b v h hc]

/-- two lists of sizes / objects that do not pair up: the reference defines nothing;
    `bothNumeric` tells which way the implementation goes, cutting two arrays of numbers to the
    shorter one and raising for object arrays (both shown in `format2_extension_witness`) -/
theorem format2_length_witness :
    refZip fmt2Atom [.int 1, .int 2, .int 3] [.int 1, .int 2] = none ∧
    bothNumeric (.list [.int 1, .int 2, .int 3]) (.list [.int 1, .int 2]) = true ∧
    bothNumeric (.list [.int 5]) (.list [.str [97], .str [98]]) = false := by
  refine ⟨by simp [refZip, refA2, fmt2Atom, fmtText], by decide, by decide⟩

/-! ## Floor of real numbers -/

/-- **floorInt_spec**: the bit-level floor is the floor.  For x = m·2^e ≥ 0 (numerator
    N = m·2^max(e,0), denominator D = 2^max(−e,0)): ⌊x⌋·D ≤ N < (⌊x⌋+1)·D; for x = −m·2^e:
    ⌊x⌋ = −c with N ≤ c·D < N + D, i.e. −c ≤ x < −c + 1 -/
theorem floorInt_spec (d : Dbl) :
    (d.neg = false → ∃ n : Nat, floorInt d = (n : Int) ∧
      n * 2 ^ (-d.e).toNat ≤ d.m * 2 ^ d.e.toNat ∧ d.m * 2 ^ d.e.toNat < (n + 1) * 2 ^ (-d.e).toNat) ∧
    (d.neg = true → ∃ c : Nat, floorInt d = -(c : Int) ∧
      d.m * 2 ^ d.e.toNat ≤ c * 2 ^ (-d.e).toNat ∧ c * 2 ^ (-d.e).toNat < d.m * 2 ^ d.e.toNat + 2 ^ (-d.e).toNat) := by
  have hden : 0 < 2 ^ (-d.e).toNat := Nat.pow_pos (by decide)
  constructor
  · intro hneg
    have lt_succ_div_mul (N D : Nat) (hD : 0 < D) : N < (N / D + 1) * D := by
      rw [Nat.add_one_mul]
      exact Nat.lt_div_mul_add hD
    exact ⟨_, by simp [floorInt, hneg], Nat.div_mul_le_self _ _, lt_succ_div_mul _ _ hden⟩
  · intro hneg
    exact ⟨_, by simp [floorInt, hneg], ceilDiv_mul_bounds _ _ hden⟩

theorem implFloor_real {bits : UInt64} {d : Dbl} (hd : decode bits = some d) :
    implFloor (.real bits) =
      if (floorInt d).natAbs < two63 then .ok (.int (floorInt d)) else .ok (.real bits) := by
  have hns : Ext1.notStored (.real bits) = false := rfl
  simp only [implFloor, hns, implFloorRec, floorNumeric, Ext1.hasReal, Ext1.hasInt, floorsOf, hd]
  simp [floorLeaves, hd]

/-- **floor_real_correct**: Floor of a real number — the integer ⌊a⌋ below 2^53, the real itself
    from 2^63 on (`floor_to_int` of /repo at 0e3a9ac, which keeps a real that `astype(int)` would
    wrap: `_1e100`) -/
theorem floor_real_correct (a v : Val) (h : refMonad "_" a = some v) : implMonad "_" a = .ok v := by
  cases a with
  | real bits =>
    rw [refMonad_floor, refFloor] at h
    split at h
    · cases h
    next d hd =>
      rw [implMonad_floor, implFloor_real hd]
      dsimp only at h
      -- the reference's three ranges of |⌊a⌋|: below 2^53, from 2^63 on, in between (undefined)
      split at h
      · rename_i hlt
        cases h
        rw [if_pos (Nat.lt_trans hlt (by decide))]
      · split at h
        · cases h
          rw [if_neg (by omega)]
        · cases h
  | _ => cases h

/-! ## Grade of lists of lists, strings, characters, reals -/

theorem cmpText_single (a b : Nat) : cmpText [a] [b] = cmpNat a b := rfl

theorem implCmp_of_cmpNum {a b : Val} {o : Ordering} (h : cmpNum a b = some o) :
    implCmp a b = some o := by
  -- two numbers: `implCmp` is `cmpNum` by computation; any other pair: `cmpNum` is `none`
  cases a <;> cases b <;> first | exact h | cases h

theorem cmp_agree_all :
    (∀ x y o, refCmp x y = some o → implCmp x y = some o) ∧
    (∀ xs ys o, refCmpL xs ys = some o → implCmpL xs ys = some o) := by
  -- cases in the clause order of `refCmp` (1–4: two lists; two characters; two strings; anything
  -- else, `refCmp.eq_4`: `cmpNum`) and `refCmpL` (5–8: `[]` against `[]`; equal heads, the tails
  -- decide; different heads decide; the catch-all `refCmpL.eq_3`, a proper prefix: `none`)
  apply refCmp.mutual_induct
  case case1 =>
    intro xs ys ih o h
    rw [refCmp] at h
    rw [implCmp]
    exact ih o h
  case case2 =>
    intro a b o h
    rw [refCmp] at h
    simp [implCmp, textOf, cmpText_single, ← h]
  case case3 =>
    intro a b o h
    rw [refCmp] at h
    simp [implCmp, textOf, ← h]
  case case4 =>
    intro a b h1 h2 h3 o h
    rw [refCmp.eq_4 _ _ h1 h2 h3] at h
    exact implCmp_of_cmpNum h
  case case5 =>
    intro o h
    exact h
  case case6 =>
    intro x xs y ys hxy ih1 ih2 o h
    rw [refCmpL, hxy] at h
    rw [implCmpL, ih1 _ hxy]
    exact ih2 o h
  case case7 =>
    intro x xs y ys hne ih1 o h
    rw [refCmpL] at h
    split at h
    next heq => exact absurd heq hne
    next =>
      rw [implCmpL, ih1 o h]
      cases o with
      | lt => rfl
      | eq => exact absurd h hne
      | gt => rfl
  case case8 =>
    intro t x h1 h2 o h
    rw [refCmpL.eq_3 _ _ h1 h2] at h
    cases h

theorem cmp_agree : ∀ (x y : Val) (o : Ordering), refCmp x y = some o → implCmp x y = some o :=
  cmp_agree_all.1

theorem cmpL_agree : ∀ (xs ys : List Val) (o : Ordering), refCmpL xs ys = some o → implCmpL xs ys = some o :=
  cmp_agree_all.2

theorem insertBy_congr {α} {le1 le2 : α → α → Bool} {x : α} :
    ∀ (l : List α), (∀ y ∈ l, le1 x y = le2 x y) → Ext2.insertBy le1 x l = Ext2.insertBy le2 x l
  | [], _ => rfl
  | y :: ys, h => by
    rw [Ext2.insertBy, Ext2.insertBy, h y List.mem_cons_self,
      insertBy_congr ys fun z hz => h z (List.mem_cons_of_mem _ hz)]

/-- insertion sort only ever asks `le earlier later`: two orders that agree on those pairs sort alike -/
theorem isort_congr {α} {le1 le2 : α → α → Bool} :
    ∀ (l : List α), l.Pairwise (fun a b => le1 a b = le2 a b) → Ext2.isort le1 l = Ext2.isort le2 l
  | [], _ => rfl
  | x :: xs, h => by
    rw [List.pairwise_cons] at h
    rw [Ext2.isort, Ext2.isort, isort_congr xs h.2]
    exact insertBy_congr _ fun y hy => h.1 y ((Ext2.isort_perm le2 xs).subset hy)

theorem allPairs_iff {p : Val → Val → Bool} {xs : List Val} :
    allPairs p xs = true ↔ xs.Pairwise (fun a b => p a b = true) := by
  induction xs with
  | nil => simp [allPairs]
  | cons x xs ih => simp [allPairs, ih]

theorem cmp_of_strictly {x y : Val} (h : strictly refCmp x y = true) :
    implCmp x y = refCmp x y ∧ (refCmp x y).isSome = true := by
  cases hr : refCmp x y with
  | none => simp [strictly, hr] at h
  | some o => exact ⟨cmp_agree x y o hr, rfl⟩

theorem gradeBy_agree (down : Bool) (xs : List Val) (h : allPairs (strictly refCmp) xs = true) :
    gradeBy implCmp down xs = gradeBy refCmp down xs := by
  have hp : xs.zipIdx.Pairwise (fun a b => strictly refCmp a.1 b.1 = true) := by
    rw [← List.pairwise_map (f := Prod.fst) (R := fun a b => strictly refCmp a b = true),
      List.zipIdx_map_fst]
    exact allPairs_iff.mp h
  have : Ext2.isort (leIdx implCmp) xs.zipIdx = Ext2.isort (leIdx refCmp) xs.zipIdx :=
    isort_congr _ (hp.imp fun hab => by simp only [leIdx, (cmp_of_strictly hab).1])
  simp only [gradeBy, this]

/-- **grade_nested_correct**: Grade-Up / Grade-Down of a list whose members are lists (compared
    pairwise and recursively, to any depth), strings, characters, integers or reals: wherever the
    members are pairwise comparable and different — where the sorting permutation is unique — the
    `kg_argsort` of /repo at 05f1070 returns the reference's permutation -/
theorem grade_nested_correct (down : Bool) (xs : List Val) (v : Val)
    (h : refGrade down (.list xs) = some v) (hs : Ext1.notStored (.list xs) = false) :
    implGrade down (.list xs) = .ok v := by
  simp only [refGrade, Option.ite_none_right_eq_some, Option.some.injEq] at h
  obtain ⟨hall, rfl⟩ := h
  have hp := allPairs_iff.mp hall
  have h1 : allPairs (fun x y => (implCmp x y).isSome) xs = true :=
    allPairs_iff.mpr (hp.imp fun hxy => by
      rw [(cmp_of_strictly hxy).1]
      exact (cmp_of_strictly hxy).2)
  have h2 : allPairs (strictly implCmp) xs = true :=
    allPairs_iff.mpr (hp.imp fun hxy => by
      rw [strictly, (cmp_of_strictly hxy).1]
      exact hxy)
  unfold implGrade
  cases xs with
  | nil => simp [hs, gradeBy, Ext2.isort, Ext2.ofNats]
  | cons x xs => simp [hs, h1, h2, gradeBy_agree down (x :: xs) hall]

/-- the positions `gradeBy refCmp` lists (before Grade-Down reverses them) are a permutation of
    0..n−1 -/
theorem refGrade_perm (xs : List Val) :
    ((Ext2.isort (leIdx refCmp) xs.zipIdx).map (·.2)).Perm (List.range xs.length) :=
  Ext2.isort_zipIdx_perm (leIdx refCmp) xs

/-! ## witnesses (kernel-evaluated; the real operands are IEEE-754 bit patterns) -/

private def i (n : Int) : Val := .int n
private def l (xs : List Val) : Val := .list xs
private def r5_3 : Val := .real 0x4015333333333333        -- 5.3
private def r123_45 : Val := .real 0x405EDCCCCCCCCCCD     -- 123.45
private def r1_5 : Val := .real 0x3FF8000000000000        -- 1.5
private def rm2_5 : Val := .real 0xC004000000000000       -- -2.5
private def r0_5 : Val := .real 0x3FE0000000000000        -- 0.5
private def r5_0 : Val := .real 0x4014000000000000        -- 5.0
private def rm5_3 : Val := .real 0xC015333333333333       -- -5.3
private def r1e100 : Val := .real 0x54B249AD2594C37D      -- 1e100
private def r123_9 : Val := .real 0x405EF9999999999A      -- 123.9
private def r2p53 : Val := .real 0x4340000000000000       -- 2^53
private def r2p63 : Val := .real 0x43E0000000000000       -- 2^63

/-- the manual's five examples, reference and implementation: 0$123, (-5)$-123, 5$"xyz",
    (-5)$:foo, 5.3$123.45; and 0$:foo keeps the colon (/repo at a53617e), 5$1.5 is "1.5  " -/
theorem format2_examples_witness :
    Ext3.optIs (fmt2Atom (i 0) (i 123)) (.str [49, 50, 51]) = true ∧
    (f2Atom (i 0) (i 123)).is (.str [49, 50, 51]) = true ∧
    Ext3.optIs (fmt2Atom (i (-5)) (i (-123))) (.str [32, 45, 49, 50, 51]) = true ∧
    (f2Atom (i (-5)) (i (-123))).is (.str [32, 45, 49, 50, 51]) = true ∧
    Ext3.optIs (fmt2Atom (i 5) (.str [120, 121, 122])) (.str [120, 121, 122, 32, 32]) = true ∧
    (f2Atom (i 5) (.str [120, 121, 122])).is (.str [120, 121, 122, 32, 32]) = true ∧
    Ext3.optIs (fmt2Atom (i (-5)) (.sym [102, 111, 111])) (.str [32, 58, 102, 111, 111]) = true ∧
    (f2Atom (i (-5)) (.sym [102, 111, 111])).is (.str [32, 58, 102, 111, 111]) = true ∧
    Ext3.optIs (fmt2Atom r5_3 r123_45) (.str [32, 32, 49, 50, 51, 46, 52, 53, 48]) = true ∧
    (f2Atom r5_3 r123_45).is (.str [32, 32, 49, 50, 51, 46, 52, 53, 48]) = true ∧
    Ext3.optIs (fmt2Atom (i 0) (.sym [102, 111, 111])) (.str [58, 102, 111, 111]) = true ∧
    (f2Atom (i 0) (.sym [102, 111, 111])).is (.str [58, 102, 111, 111]) = true ∧
    Ext3.optIs (fmt2Atom (i 5) r1_5) (.str [49, 46, 53, 32, 32]) = true ∧
    (f2Atom (i 5) r1_5).is (.str [49, 46, 53, 32, 32]) = true ∧
    (f2Atom (i 2) (.str [97, 98, 99, 100])).is (.str [97, 98, 99, 100]) = true ∧
    (f2Atom (i (-3)) (.chr 120)).is (.str [32, 32, 120]) = true := by decide +kernel

/-- where the manual is silent and what the code does there: a real size with an object that is no
    real raises (5.3$1); |a| < 1 writes the object unpadded (0.5$1.5); a negative real size pads the
    WHOLE text ((-5.3)$1.5 is "1.500"); m = 0 drops the point (5.0$1.5 is "    2", round-half-even);
    an object that needs an exponent (5$1e100) is not modelled -/
theorem format2_outside_witness :
    (fmt2Atom r5_3 (i 1)).isNone = true ∧ Ext1.Res.isErr (f2Atom r5_3 (i 1)) = true ∧
    (fmt2Atom r0_5 r1_5).isNone = true ∧ (f2Atom r0_5 r1_5).is (.str [49, 46, 53]) = true ∧
    (fmt2Atom rm5_3 r1_5).isNone = true ∧ (f2Atom rm5_3 r1_5).is (.str [49, 46, 53, 48, 48]) = true ∧
    (fmt2Atom r5_0 r1_5).isNone = true ∧ (f2Atom r5_0 r1_5).is (.str [32, 32, 32, 32, 50]) = true ∧
    (fmt2Atom (.str [97]) (i 1)).isNone = true ∧
    (fmt2Atom (i 5) r1e100).isNone = true ∧ (pyFloatStr 0x54B249AD2594C37D).isNone = true ∧
    (fmt2Atom r5_3 r1e100).isNone = true := by decide +kernel

/-- atomic extension (/repo at 0164c67): a size over a list of numbers (5$[1 2]), a list of sizes
    over one string ([5 -3]$"a"), paired lists with a nested member; object arrays of different
    length raise, two arrays of numbers are cut to the shorter one (the reference defines
    neither) -/
theorem format2_extension_witness :
    (implF2 (i 5) (l [i 1, i 2])).is (l [.str [49, 32, 32, 32, 32], .str [50, 32, 32, 32, 32]]) = true ∧
    Ext3.optIs (refA2 fmt2Atom (i 5) (l [i 1, i 2])) (l [.str [49, 32, 32, 32, 32], .str [50, 32, 32, 32, 32]]) = true ∧
    (implF2 (l [i 5, i (-3)]) (.str [97])).is (l [.str [97, 32, 32, 32, 32], .str [32, 32, 97]]) = true ∧
    Ext3.optIs (refA2 fmt2Atom (l [i 5, i (-3)]) (.str [97])) (l [.str [97, 32, 32, 32, 32], .str [32, 32, 97]]) = true ∧
    (implF2 (l [i 3, i (-3)]) (l [l [i 1, i 2], .str [97]])).is
      (l [l [.str [49, 32, 32], .str [50, 32, 32]], .str [32, 32, 97]]) = true ∧
    Ext3.optIs (refA2 fmt2Atom (l [i 3, i (-3)]) (l [l [i 1, i 2], .str [97]]))
      (l [l [.str [49, 32, 32], .str [50, 32, 32]], .str [32, 32, 97]]) = true ∧
    Ext1.Res.isErr (implF2 (l [i 5]) (l [.str [97], .str [98]])) = true ∧
    (refA2 fmt2Atom (l [i 5]) (l [.str [97], .str [98]])).isNone = true ∧
    (implF2 (l [i 1, i 2, i 3]) (l [i 1, i 2])).is (l [.str [49], .str [50, 32]]) = true ∧
    (refA2 fmt2Atom (l [i 1, i 2, i 3]) (l [i 1, i 2])).isNone = true := by
  simp only [i, l, implF2, implF2MapR, implF2MapL, implF2Zip, refA2, refZip, refMapL, refMapR]
  decide

/-- Floor of reals: the manual's examples _123.9 and _1e100 (/repo at 0e3a9ac), a negative real,
    the 2^53 mark (reference silent, the code converts), 2^63 (stays real), an integer above 2^53
    (unchanged), and a flat and a nested list of reals, floored member by member -/
theorem floor_witness :
    Ext3.optIs (refFloor r123_9) (i 123) = true ∧ (implFloor r123_9).is (i 123) = true ∧
    Ext3.optIs (refFloor r1e100) r1e100 = true ∧ (implFloor r1e100).is r1e100 = true ∧
    Ext3.optIs (refFloor rm2_5) (i (-3)) = true ∧ (implFloor rm2_5).is (i (-3)) = true ∧
    (refFloor r2p53).isNone = true ∧ (implFloor r2p53).is (i 9007199254740992) = true ∧
    Ext3.optIs (refFloor r2p63) r2p63 = true ∧ (implFloor r2p63).is r2p63 = true ∧
    (implFloor (i 9007199254740993)).is (i 9007199254740993) = true ∧
    (implFloor (l [r1_5, rm2_5])).is (l [i 1, i (-3)]) = true ∧
    (implFloor (l [i 1, l [r1_5, r0_5]])).is (l [i 1, l [i 1, i 0]]) = true := by decide +kernel

/-- Grade (/repo at 05f1070): lists compared pairwise and recursively, >[[1] [2] [3]] and, for the
    reference, the manual's own pair [1 [2] 3] / [1 [4] 0] (as a literal it is a rank-2 object
    array, `Ext1.notStored`: the implementation is shown on [1 [4]] / [1 [2] 3]); strings with the
    empty string; equal members and proper prefixes: the reference is silent, the code orders ties
    by position and a prefix first -/
theorem grade_witness :
    Ext3.optIs (refGrade false (l [l [i 1, i 2], l [i 3, i 4], l [i 0, i 9]])) (l [i 2, i 0, i 1]) = true ∧
    (implGrade false (l [l [i 1, i 2], l [i 3, i 4], l [i 0, i 9]])).is (l [i 2, i 0, i 1]) = true ∧
    Ext3.optIs (refGrade true (l [l [i 1], l [i 2], l [i 3]])) (l [i 2, i 1, i 0]) = true ∧
    (implGrade true (l [l [i 1], l [i 2], l [i 3]])).is (l [i 2, i 1, i 0]) = true ∧
    Ext3.optIs (refGrade false (l [l [i 1, l [i 4], i 0], l [i 1, l [i 2], i 3]])) (l [i 1, i 0]) = true ∧
    (implGrade false (l [l [i 1, l [i 4]], l [i 1, l [i 2], i 3]])).is (l [i 1, i 0]) = true ∧
    Ext3.optIs (refGrade false (l [.str [98], .str [], .str [97, 98]])) (l [i 1, i 2, i 0]) = true ∧
    (implGrade false (l [.str [98], .str [], .str [97, 98]])).is (l [i 1, i 2, i 0]) = true ∧
    Ext3.optIs (refGrade true (.str [98, 97, 99])) (l [i 2, i 0, i 1]) = true ∧
    (refGrade false (l [l [i 1, i 2], l [i 1, i 2]])).isNone = true ∧
    (implGrade false (l [l [i 1, i 2], l [i 1, i 2]])).is (l [i 0, i 1]) = true ∧
    (implGrade true (l [l [i 1, i 2], l [i 1, i 2]])).is (l [i 1, i 0]) = true ∧
    (refGrade false (l [l [i 1, i 2], l [i 1]])).isNone = true ∧
    (implGrade false (l [l [i 1, i 2], l [i 1]])).is (l [i 1, i 0]) = true ∧
    (refGrade false (l [i 1, .str [97]])).isNone = true := by decide +kernel

/-! ## non-vacuity -/

example : implDyad "$" (i 5) (.str [120, 121, 122]) = .ok (.str [120, 121, 122, 32, 32]) := by
  refine format2_correct _ _ _ ?_ (by decide) (by decide) (by decide)
  simp only [i, refDyad, refFormat2, refA2]
  rfl

set_option linter.unusedSimpArgs false in
example : implDyad "$" (l [i 3, i (-3)]) (l [l [i 1, i 2], .str [97]]) =
    .ok (l [l [.str [49, 32, 32], .str [50, 32, 32]], .str [32, 32, 97]]) := by
  refine format2_correct _ _ _ ?_ (by decide) (by decide) (by decide)
  simp only [i, l, refDyad, refFormat2, refA2, refZip, refMapR]
  rfl

-- `exponentiation.threshold`: `floorInt` of 1e100 is m · 2^280, and `^` is not evaluated above
-- the exponent 256 by default.  The three examples also check at the default `maxRecDepth`.
set_option maxRecDepth 20000 in
set_option exponentiation.threshold 2000 in
example : implMonad "_" r1e100 = .ok r1e100 := floor_real_correct _ _ (by rfl)

set_option maxRecDepth 20000 in
example : implMonad "_" rm2_5 = .ok (i (-3)) := floor_real_correct _ _ (by rfl)

set_option maxRecDepth 20000 in
example : implGrade false (l [l [i 1, i 2], l [i 3, i 4], l [i 0, i 9]]) = .ok (l [i 2, i 0, i 1]) :=
  grade_nested_correct _ _ _ (by rfl) (by decide)

example : floorInt ⟨true, 5, -1⟩ = -3 ∧ floorInt ⟨false, 5, -1⟩ = 2 := by decide

end Klong.C01.Ext4
