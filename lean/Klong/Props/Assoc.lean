/-
  `List.lookup` in the association lists the models keep their stores, frames, disks and tables
  in: after a binding is put in front, after keys are filtered out, after both, after the values
  are mapped.
-/
namespace Klong

variable {κ β γ : Type} [BEq κ] [LawfulBEq κ]

theorem mem_of_lookup {l : List (κ × β)} {k : κ} {v : β} (h : l.lookup k = some v) :
    (k, v) ∈ l := by
  obtain ⟨l₁, l₂, rfl, _⟩ := List.lookup_eq_some_iff.mp h
  simp

-- the equations below say `if k = n`, which `LawfulBEq` alone does not decide
variable [DecidableEq κ]

theorem lookup_cons_ite {k : κ} {p : κ × β} {l : List (κ × β)} :
    List.lookup k (p :: l) = if k = p.1 then some p.2 else List.lookup k l := by
  obtain ⟨a, b⟩ := p
  by_cases h : k = a
  · simp [List.lookup, h]
  · simp [List.lookup, h, beq_false_of_ne h]

theorem lookup_filter_key (l : List (κ × β)) (q : κ → Bool) (k : κ) :
    List.lookup k (l.filter fun p => q p.1) = if q k then List.lookup k l else none := by
  induction l with
  | nil => simp
  | cons p l ih =>
    obtain ⟨a, b⟩ := p
    by_cases hk : k = a
    · subst hk
      cases hq : q k <;> simp [hq, ih]
    · cases hq : q a <;> simp [hq, lookup_cons_ite, hk, ih]

theorem lookup_filter_ne {l : List (κ × β)} {n k : κ} :
    List.lookup k (l.filter fun p => p.1 != n) = if k = n then none else List.lookup k l := by
  rw [lookup_filter_key l (· != n) k]
  by_cases h : k = n <;> simp [h]

theorem lookup_cons_filter_ne {l : List (κ × β)} {n k : κ} {b : β} :
    List.lookup k ((n, b) :: l.filter fun p => p.1 != n) =
      if k = n then some b else List.lookup k l := by
  rw [lookup_cons_ite, lookup_filter_ne]
  by_cases h : k = n <;> simp [h]

theorem lookup_map_val (g : κ → β → γ) (l : List (κ × β)) (k : κ) :
    (l.map fun e => (e.1, g e.1 e.2)).lookup k = (l.lookup k).map (g k) := by
  induction l with
  | nil => rfl
  | cons e l ih =>
    obtain ⟨a, b⟩ := e
    by_cases hk : k = a <;> simp [lookup_cons_ite, hk, ih]

end Klong
