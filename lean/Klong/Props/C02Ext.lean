/-
  C02 (extension) — property theorems for Each-Index, Each-2, Each on strings / dictionaries,
  the convergence family (explicit fuel) and chains of adverbs: the implementation model equals
  the manual's expansion as a monadic program, for every verb in every lawful monad.
-/
import Klong.Model.C02Ext
import Klong.Props.C02
namespace Klong.C02
open Klong.C01

section generic
variable {m : Type → Type} [Monad m] [LawfulMonad m]

/-! with `str_to_chr_arr`, Python's iteration and `is_empty` are readings of `elems` -/

theorem pyIter_strToChrArr (a : Val) : pyIter strToChrArr a = elems a := by
  cases a <;> rfl

theorem isEmptySeq_eq (a : Val) : isEmptySeq a = (elems a == some []) := by
  cases a with
  | list xs => cases xs <;> rfl
  | str cs => cases cs <;> rfl
  | _ => rfl

/-! ## Each-Index -/

theorem zipIdx_mapM_eq (f : V1 m) (xs : List Val) (i : Nat) :
    (xs.zipIdx i).mapM (fun p => f (.list [.int (p.2 : Nat), p.1])) = refMapIdx f i xs := by
  induction xs generalizing i with
  | nil => simp [refMapIdx]
  | cons x xs ih => simp only [List.zipIdx_cons, List.mapM_cons, refMapIdx, ih]

/-- `f@'a` is f([0;a1]),…,f([N-1;aN]) — list, string, atom and empty
    clauses — when the members of a string are presented as characters (`str_to_chr_arr`) -/
theorem each_index_eq (f : V1 m) (a : Val) : implEachIndex strToChrArr f a = refEachIndex f a := by
  unfold implEachIndex refEachIndex
  rw [pyIter_strToChrArr, isEmptySeq_eq]
  rcases elems a with _ | _ | _ <;> simp [← zipIdx_mapM_eq]

omit [LawfulMonad m] in
/-- on a non-string the way strings iterate (`chars`) plays no part, so `each_index_eq` speaks of
    every `chars` there — of Python's own `enumerate` over a `str` (before /repo f73dcd7) too -/
theorem each_index_eq_of_not_str (chars : List Nat → List Val) (f : V1 m) (a : Val)
    (h : ∀ cs, a ≠ .str cs) : implEachIndex chars f a = implEachIndex strToChrArr f a := by
  cases a with
  | str cs => exact absurd rfl (h cs)
  | _ => rfl

/-! ## Each-2 -/

/-- `a f'b` — the empty, atom-atom and pairwise clauses — for every presentation
    `seq` of the result list -/
theorem each2_eq (seq : List Val → Val) (undef : m Val) (f : V2 m) (a b : Val) :
    implEach2 strToChrArr seq undef f a b = refEach2 seq undef f a b := by
  unfold implEach2 refEach2
  rw [pyIter_strToChrArr, pyIter_strToChrArr, isEmptySeq_eq, isEmptySeq_eq]
  rcases elems a with _ | _ | _ <;> rcases elems b with _ | _ | _ <;> simp [pyZipComp_eq]

theorem allU1_eq_allChrs (r : List Val)
    (h : ∀ v ∈ r, u1Chars v = none ∨ ∃ c, v = .chr c) : allU1 r = allChrs r := by
  induction r with
  | nil => rfl
  | cons v r ih =>
    rw [allU1, ih fun w hw => h w (List.mem_cons_of_mem _ hw)]
    rcases h v List.mem_cons_self with hv | ⟨c, rfl⟩
    · -- `v` is no character, so it is not `<U1` either: both sides give up
      rw [hv]
      cases v with
      | chr c => cases hv
      | _ => rfl
    · cases hr : allChrs r <;> simp [u1Chars, allChrs, hr]

/-- The code before /repo 5fd71c0: numpy's `'<U1'` join presents the result
    list as the manual does (a list of characters is a string) unless the verb returned strings or
    symbols of length ≤ 1.  The repaired code uses `mkSeq` itself, for which `each2_eq` is the
    whole statement. -/
theorem each2_join_sound (r : List Val)
    (h : ∀ v ∈ r, u1Chars v = none ∨ ∃ c, v = .chr c) : u1Join r = mkSeq r := by
  unfold u1Join mkSeq
  rw [allU1_eq_allChrs r h]

/-! ## Each on strings and dictionaries -/

/-- `f'a` for every kind of operand (list, string, atom, dictionary); for a
    dictionary, f is applied to each stored `[key value]` tuple in storage order -/
theorem each_x_eq (f : V1 m) (a : Val) : implEachX strToChrArr f a = refEachX f a := by
  unfold implEachX refEachX
  cases a with
  | str cs => cases cs <;> simp [pyComp_eq_refMap, strToChrArr]
  | list xs => cases xs <;> simp [refEach, ← pyComp_eq_refMap, pyComp]
  | dict kvs => simp [pyComp_eq_refMap]
  | _ => simp [refEach]

theorem each_dict_eq (f : V1 m) (kvs : List (Val × Val)) :
    implEachX strToChrArr f (.dict kvs)
      = (do let r ← refMap f (kvs.map fun p => .list [p.1, p.2]); pure (.list r)) := by
  rw [each_x_eq]
  rfl

/-! ## the convergence family

The scanning loops carry the list collected so far: their lemmas are stated for a loop entered
with any `pre ++ …` (the induction on the fuel needs that) and for any use `g` of the result. -/

omit [LawfulMonad m] in
theorem pyWhile_zero {σ : Type} (cond : σ → m Bool) (body : σ → m σ) (s : σ) :
    pyWhile cond body 0 s = (do let c ← cond s; if c then pure none else pure (some s)) := by
  rw [pyWhile]

omit [LawfulMonad m] in
theorem pyWhile_succ {σ : Type} (cond : σ → m Bool) (body : σ → m σ) (n : Nat) (s : σ) :
    pyWhile cond body (n + 1) s =
      (do let c ← cond s
          if c then (do let s' ← body s; pyWhile cond body n s') else pure (some s)) := by
  rw [pyWhile]

theorem refFix_eq_loop (eq : Val → Val → Bool) (f : V1 m) (n : Nat) (x : Val) :
    refFix eq f n x = (do
      let y ← f x
      let r ← pyWhile (fun (s : Val × Val) => pure (!eq s.1 s.2))
                (fun s => do let xx' ← f s.2; pure (s.2, xx')) n (x, y)
      pure (r.map (·.1))) := by
  induction n generalizing x with
  | zero =>
    rw [refFix]
    simp only [pyWhile_zero, pure_bind]
    congr 1
    funext y
    cases eq x y <;> simp
  | succ n ih =>
    rw [refFix]
    simp only [pyWhile_succ, pure_bind, ih, bind_assoc]
    congr 1
    funext y
    cases eq x y <;> simp

/-- for every fuel, `eval_adverb_converge` makes the calls the definition
    prescribes, in the same order, and returns the same value (or both run out of fuel) -/
theorem converge_eq (eq : Val → Val → Bool) (f : V1 m) (n : Nat) (a : Val) :
    implConverge eq f n a = refConverge eq f n a := by
  unfold implConverge refConverge
  congr 1
  funext x
  rw [refFix_eq_loop]

theorem dropLast_two (pre : List Val) (x xx : Val) : (pre ++ [x, xx]).dropLast = pre ++ [x] := by
  rw [show pre ++ [x, xx] = (pre ++ [x]) ++ [xx] by simp, List.dropLast_concat]

/-- The loop of `eval_adverb_scan_converging` entered with `r = pre ++ [x, y]`: every round appends
    the next value, and the `r.pop()` after the loop removes the one appended last, so what is
    returned is `pre` followed by the reference's scan from `x`. -/
theorem scanConv_loop_eq {β : Type} (g : List Val → β) (eq : Val → Val → Bool) (f : V1 m) (n : Nat)
    (x : Val) (pre : List Val) :
    (do let y ← f x
        let r ← pyWhile (fun (s : Val × Val × List Val) => pure (!eq s.1 s.2.1))
                  (fun s => do let xx' ← f s.2.1; pure (s.2.1, xx', s.2.2 ++ [xx'])) n
                  (x, y, pre ++ [x, y])
        pure (r.map fun s => g s.2.2.dropLast))
      = (do let rs ← refScanFix eq f n x; pure (rs.map fun l => g (pre ++ l))) := by
  induction n generalizing x pre with
  | zero =>
    rw [refScanFix]
    simp only [pyWhile_zero, pure_bind, bind_assoc]
    congr 1
    funext y
    -- no match: out of fuel on both sides; a match: the loop is left at once and `r.pop()` takes
    -- `y` off again (`dropLast_two`, which `simp` knows)
    cases eq x y <;> simp
  | succ n ih =>
    rw [refScanFix]
    simp only [pyWhile_succ, pure_bind, bind_assoc]
    congr 1
    funext y
    cases eq x y
    · simpa [Function.comp_def] using ih y (pre ++ [x])
    · simp

/-- `f\~a` collects a, f(a), … up to the fixpoint, for every fuel -/
theorem scan_converging_eq (eq : Val → Val → Bool) (f : V1 m) (n : Nat) (a : Val) :
    implScanConverging eq f n a = refScanConverging eq f n a := by
  simpa [implScanConverging, refScanConverging] using scanConv_loop_eq Val.list eq f n a []

/-- `p f:~b` — the predicate is evaluated before every step, for every fuel -/
theorem while_eq (truthy : Val → Bool) (p f : V1 m) (n : Nat) (b : Val) :
    implWhile truthy p f n b = refWhile truthy p f n b := by
  unfold implWhile
  induction n generalizing b with
  | zero =>
    rw [refWhile]
    simp only [pyWhile_zero, bind_assoc, pure_bind]
  | succ n ih =>
    rw [refWhile]
    simp only [pyWhile_succ, bind_assoc, pure_bind, ih]

theorem scanWhile_loop_eq {β : Type} (g : List Val → β) (truthy : Val → Bool) (p f : V1 m) (n : Nat)
    (b : Val) (pre : List Val) :
    (do let r ← pyWhile (fun (s : Val × List Val) => do let t ← p s.1; pure (truthy t))
                  (fun s => do let b' ← f s.1; pure (b', s.2 ++ [b'])) n (b, pre ++ [b])
        pure (r.map fun s => g s.2.dropLast))
      = (do let rs ← refScanWhileL truthy p f n b; pure (rs.map fun l => g (pre ++ l))) := by
  induction n generalizing b pre with
  | zero =>
    rw [refScanWhileL]
    simp only [pyWhile_zero, bind_assoc, pure_bind]
    congr 1
    funext t
    -- `p` fails: the loop is left and `r.pop()` takes off the `b` appended last
    -- (`List.dropLast_concat`); `p` holds: out of fuel on both sides
    cases truthy t <;> simp
  | succ n ih =>
    rw [refScanWhileL]
    simp only [pyWhile_succ, bind_assoc, pure_bind]
    congr 1
    funext t
    cases truthy t
    · simp
    · simp only [if_true, bind_assoc, pure_bind, ih _ (pre ++ [b]), Option.map_map]
      simp [Function.comp_def]

/-- `p f\~b` collects the values that satisfy p, for every fuel -/
theorem scan_while_eq (truthy : Val → Bool) (p f : V1 m) (n : Nat) (b : Val) :
    implScanWhile truthy p f n b = refScanWhile truthy p f n b := by
  simpa [implScanWhile, refScanWhile] using scanWhile_loop_eq Val.list truthy p f n b []

end generic

/-! ## chains -/

section chains
variable {m : Type → Type}

theorem implChainGo_eq (op : Option String) (i : Nat) (hi : 2 ≤ i) (f : Fn m) (advs : List (Adv m)) :
    implChainGo op i f advs = refChain f none advs := by
  induction advs generalizing i f with
  | nil => rfl
  | cons o rest ih =>
    have h1 : ¬ i = 1 := by omega
    simp only [implChainGo, refChain, h1, if_false]
    exact ih (i + 1) (by omega) _

/-- for every length k, the closures `chain_adverbs` builds for `v a₁ a₂ … aₖ` are
    a₁ applied to v (with v's operator), then a₂ applied to the resulting monad (no operator), … -/
theorem chain_eq (v : Fn m) (op : Option String) (advs : List (Adv m)) :
    implChain v op advs = refChain v op advs := by
  cases advs with
  | nil => rfl
  | cons a rest =>
    simp only [implChain, implChainGo, refChain, if_true]
    exact implChainGo_eq op 2 (by omega) _ rest

/-- left to right: the last adverb of the chain is applied to the verb derived by the others -/
theorem refChain_snoc (v : Fn m) (op : Option String) (advs : List (Adv m)) (a : Adv m) :
    refChain v op (advs ++ [a])
      = .mon (a (refChain v op advs) (if advs.isEmpty then op else none)) := by
  induction advs generalizing v op with
  | nil => rfl
  | cons b rest ih =>
    simp only [List.cons_append, refChain, List.isEmpty_cons]
    rw [ih]
    cases rest <;> rfl

/-- the implementation's chain of k+1 adverbs is the (k+1)-th adverb applied
    to the implementation's chain of the first k -/
theorem chain_eq_snoc (v : Fn m) (op : Option String) (advs : List (Adv m)) (a : Adv m) :
    implChain v op (advs ++ [a])
      = .mon (a (implChain v op advs) (if advs.isEmpty then op else none)) := by
  rw [chain_eq, chain_eq, refChain_snoc]

end chains

/-! ## the fixpoint reached by Converge (pure verbs) -/

def iter (f : Val → Val) : Nat → Val → Val
  | 0, a => a
  | k + 1, a => iter f k (f a)

theorem iter_succ' (f : Val → Val) (k : Nat) (a : Val) : iter f (k + 1) a = f (iter f k a) := by
  induction k generalizing a with
  | zero => rfl
  | succ k ih =>
    rw [iter, ih (f a)]
    rfl

theorem refFix_fixpoint (eq : Val → Val → Bool) (f : Val → Val) : ∀ (n : Nat) (x v : Val),
    Id.run (refFix eq (fun y => (pure (f y) : Id Val)) n x) = some v →
    ∃ k, k ≤ n ∧ v = iter f k x ∧ eq v (f v) = true ∧
      ∀ j, j < k → eq (iter f j x) (iter f (j + 1) x) = false
  | n, x, v, h => by
    rw [refFix] at h
    cases he : eq x (f x)
    · -- no match yet: one step is spent, the rest is the search from `f x`
      match n, h with
      | 0, h => simp [he] at h
      | n + 1, h =>
        simp [he] at h
        obtain ⟨k, hk, hv, hfix, hmin⟩ := refFix_fixpoint eq f n (f x) v h
        refine ⟨k + 1, by omega, by simpa [iter] using hv, hfix, ?_⟩
        intro j hj
        cases j with
        | zero => simpa [iter] using he
        | succ j => simpa [iter] using hmin j (by omega)
    · simp [he] at h
      exact ⟨0, by omega, by simp [iter, h], by simp [← h, he], by intro j hj; omega⟩

/-- for a pure verb f, if `f:~a` returns v within the fuel then v is the
    first iterate f^(k+1)(a) (k ≤ fuel) that f maps to a matching value: `eq v (f v)` holds
    for the last two iterates, and for no earlier pair -/
theorem converge_fixpoint (eq : Val → Val → Bool) (f : Val → Val) (n : Nat) (a v : Val)
    (h : Id.run (implConverge eq (fun y => (pure (f y) : Id Val)) n a) = some v) :
    ∃ k, k ≤ n ∧ v = iter f (k + 1) a ∧ eq v (f v) = true ∧
      ∀ j, j < k → eq (iter f (j + 1) a) (iter f (j + 2) a) = false := by
  rw [converge_eq, refConverge, pure_bind] at h
  obtain ⟨k, hk, hv, hfix, hmin⟩ := refFix_fixpoint eq f n (f a) v h
  exact ⟨k, hk, by simpa [iter] using hv, hfix, fun j hj => by simpa [iter] using hmin j hj⟩

/-! ## each tuple of a dictionary exactly once -/

theorem logged1X_run (name : String) (a : Val) (l : List (List Val)) :
    (logged1X name a).run l = (monadVerbX name a).map fun v => (v, l ++ [[a]]) := by
  unfold logged1X
  cases monadVerbX name a <;> rfl

theorem refMap_log {name : String} {xs r : List Val} {l0 log : List (List Val)}
    (h : (refMap (logged1X name) xs).run l0 = some (r, log)) :
    log = l0 ++ xs.map (fun x => [x]) := by
  induction xs generalizing r l0 with
  | nil =>
    cases h
    simp
  | cons y ys ih =>
    simp only [refMap, StateT.run_bind, logged1X_run, Option.bind_eq_bind, Option.bind_eq_some_iff,
      Option.map_eq_some_iff] at h
    obtain ⟨_, ⟨v, _, rfl⟩, pr, hrest, h⟩ := h
    cases h
    simp [ih hrest]

/-- in the logging monad, the call log of `f'd` is exactly
    the list of the dictionary's `[key value]` tuples, each once, in storage order -/
theorem each_dict_calls_each_pair_once (name : String) (kvs : List (Val × Val))
    (v : Val) (log : List (List Val))
    (h : (implEachX strToChrArr (logged1X name) (.dict kvs)).run [] = some (v, log)) :
    log = kvs.map (fun p => [Val.list [p.1, p.2]]) := by
  simp only [each_dict_eq, StateT.run_bind, Option.bind_eq_bind, Option.bind_eq_some_iff] at h
  obtain ⟨pr, hr, h⟩ := h
  cases h
  simpa [List.map_map, Function.comp_def] using refMap_log hr

/-! ## witnesses

`decide` cannot unfold the well-founded atomic dyads of C01, so the witnesses use small
structurally defined verbs with the *generic* adverb machines of the model. -/

def subI : V2 LogM := fun a b => do
  modify (· ++ [[a, b]])
  match a, b with
  | .int x, .int y => pure (.int (x - y))
  | _, _ => failure

/-- `np.subtract.reduce` on an integer vector -/
def subReduce : List Val → LogM Val
  | .int x :: r => r.foldlM (fun acc y => match acc, y with
      | .int p, .int q => pure (.int (p - q))
      | _, _ => failure) (.int x)
  | _ => failure

/-- `eval_adverb_over` with the `-` shortcut keyed by the operator it is handed -/
def advOverW : Adv LogM := fun f op x =>
  implOver f.call2 (if op = some "-" then some subReduce else none) x

def advOverRefW : Adv LogM := fun f _ x => refOver f.call2 x

def advEachPairW : Adv LogM := fun f _ x => implEachPair f.call2 x

def v1234 : Val := .list [.int 1, .int 2, .int 3, .int 4]

/-- `-:'/[1 2 3 4]`.  The chain as `chain_adverbs` builds it
    since /repo ac22b53 (operator only to the first adverb) and the left-to-right reference give 1;
    handing the operator `-` to the later adverb `/` (the pinned behaviour) takes the subtract
    shortcut on the raw operand and gives -8 -/
theorem chain_pinned_op_leak_observable :
    ((((implChain (.dy subI) (some "-") [advEachPairW, advOverW]).call1 failure v1234).run []).map
        (·.1.toWire),
     (((refChain (.dy subI) (some "-") [advEachPairW, advOverRefW]).call1 failure v1234).run []).map
        (·.1.toWire),
     (((pinnedChainGo (some "-") (.dy subI) [advEachPairW, advOverW]).call1 failure v1234).run []).map
        (·.1.toWire))
      = (some "(i 1)", some "(i 1)", some "(i -8)") := by
  decide

/-- Python's own string iteration (`eval_adverb_each_index` before /repo f73dcd7) is observable:
    `{x@1}@'"a"` gave `["a"]`, the expansion gives the character list `"a"` -/
theorem each_index_pystr_observable :
    (((implEachIndex pyStrIter (logged1X "{x@1}") (.str [97])).run []).map (·.1.toWire),
     ((refEachIndex (logged1X "{x@1}") (.str [97])).run []).map (·.1.toWire))
      = (some "(L (s 97))", some "(s 97)") := by
  decide

/-- the `'<U1'` join of Each-2 (before /repo 5fd71c0) is observable when the verb returns
    one-character strings: `[1 2]{"a"}'[3 4]` gave "aa", the expansion the list ["a" "a"] -/
theorem each2_u1_join_observable :
    ((u1Join [.str [97], .str [97]]).toWire, (mkSeq [.str [97], .str [97]]).toWire)
      = ("(s 97 97)", "(L (s 97) (s 97))") := by
  decide

/-! ## non-vacuity -/

example : ((implEachIndex strToChrArr (logged1X "{x}") (.list [.int 10, .int 20])).run []).map
      (fun p => (p.1.toWire, showLog p.2))
    = some ("(L (L (i 0) (i 10)) (L (i 1) (i 20)))", "(L (i 0) (i 10))|(L (i 1) (i 20))") := by
  decide

example : ((implEach2 strToChrArr mkSeq failure subI (.list [.int 5, .int 7, .int 9])
      (.list [.int 1, .int 2])).run []).map (fun p => (p.1.toWire, showLog p.2))
    = some ("(L (i 4) (i 5))", "(i 5),(i 1)|(i 7),(i 2)") := by
  decide

example : ((implEachX strToChrArr (logged1X "{x}") (.dict [(.int 1, .int 2), (.int 3, .int 4)])).run []).map
      (fun p => (p.1.toWire, showLog p.2))
    = some ("(L (L (i 1) (i 2)) (L (i 3) (i 4)))", "(L (i 1) (i 2))|(L (i 3) (i 4))") := by
  decide

def halfI : V1 LogM := fun a => do
  modify (· ++ [[a]])
  match a with
  | .int x => pure (.int (x / 2))
  | _ => failure

def dblI : V1 LogM := fun a => do
  modify (· ++ [[a]])
  match a with
  | .int x => pure (.int (x * 2))
  | _ => failure

def lt10 : V1 LogM := fun a => do
  modify (· ++ [[a]])
  match a with
  | .int x => pure (.int (if x < 10 then 1 else 0))
  | _ => failure

def eqV (p q : Val) : Bool := p == q

/-- `{x:%2}:~8` — calls on 8, 4, 2, 1, 0; result 0 -/
example : ((implConverge eqV halfI 10 (.int 8)).run []).map
      (fun p => (p.1.map Val.toWire, showLog p.2))
    = some (some "(i 0)", "(i 8)|(i 4)|(i 2)|(i 1)|(i 0)") := by
  decide

/-- out of fuel: no fixpoint of doubling from 1 -/
example : ((implConverge eqV dblI 3 (.int 1)).run []).map (fun p => p.1.map Val.toWire)
    = some none := by
  decide

example : ((implScanConverging eqV halfI 10 (.int 8)).run []).map (fun p => p.1.map Val.toWire)
    = some (some "(L (i 8) (i 4) (i 2) (i 1) (i 0))") := by
  decide

/-- `{x<10}{x*2}:~1` — the predicate is called before every step -/
example : ((implWhile pyTruth lt10 dblI 10 (.int 1)).run []).map
      (fun p => (p.1.map Val.toWire, showLog p.2))
    = some (some "(i 16)", "(i 1)|(i 1)|(i 2)|(i 2)|(i 4)|(i 4)|(i 8)|(i 8)|(i 16)") := by
  decide

example : ((implScanWhile pyTruth lt10 dblI 10 (.int 1)).run []).map (fun p => p.1.map Val.toWire)
    = some (some "(L (i 1) (i 2) (i 4) (i 8))") := by
  decide

/-- a pure verb in `Id` (the setting of `converge_fixpoint`): halving from 8 returns 0 = f(0) -/
example : (Id.run (implConverge (m := Id) eqV
      (fun y => pure (match y with | .int n => .int (n / 2) | v => v)) 10 (.int 8))).map Val.toWire
        = some "(i 0)" := by
  decide

/-- `,/'` : Join-Over applied to each member -/
example : (((implChain (.dy (logged2 ",")) (some ",") [advOverW, fun f _ x => implEachX strToChrArr (f.call1 failure) x]).call1
      failure (.list [.list [.int 1, .int 2, .int 3], .list [.int 4, .int 5]])).run []).map (·.1.toWire)
    = some "(L (L (i 1) (i 2) (i 3)) (L (i 4) (i 5)))" := by
  decide

end Klong.C02
