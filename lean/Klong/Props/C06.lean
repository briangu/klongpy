/-
  C06 — the derivative oracle and truncation, algebraically: dual-number evaluation is the symbolic
  derivative `D` (any commutative ring), `D` is the coefficient of `t` in `eval e (p + t·e_v)` for
  polynomial expressions, central differences are exact up to degree 2 (any field, 2·eps ≠ 0).
  What the loops of klongpy/autograd.py return is in `Props/C06Loops.lean`; the truncation bound
  for C³ functions is in `Props/C06Taylor.lean`.
-/
import Klong.Props.C06Loops
import Mathlib.Tactic.Ring

namespace Klong.C06

section Dual
variable {α : Type} [CommRing α]

theorem npow_eq_pow (a : α) (n : Nat) : npow a n = a ^ n := by
  induction n with
  | zero => simp [npow]
  | succ n ih => simp [npow, ih, pow_succ]

theorem dual_npow_eps_zero (x : Dual α) : (Dual.npow x 0).eps = 0 := by
  simp [Dual.npow, Dual.ofConst]

theorem Dual.npow_eq (x : Dual α) (n : Nat) :
    Dual.npow x (n + 1) = ⟨x.val ^ (n + 1), ((n + 1 : Nat) : α) * x.val ^ n * x.eps⟩ := by
  induction n with
  | zero => simp [Dual.npow, Dual.mul, Dual.ofConst]
  | succ n ih =>
    rw [Dual.npow, ih]
    simp only [Dual.mul, Dual.mk.injEq]
    exact ⟨by ring, by push_cast; ring⟩

variable [Div α]

theorem evalDual_eq (F : FnEnv α) (p : List α) (v : Nat) (e : Expr α) :
    evalDual F p v e = ⟨eval F p e, eval F p (D v e)⟩ := by
  induction e using Expr.rec
    (motive_2 := fun es => dualSum F p v es = ⟨evalSum F p es, evalSum F p (DList v es)⟩
      ∧ dualProd F p v es = ⟨evalProd F p es, eval F p (DProd v es)⟩
      ∧ ∀ i, dualIdx F p v es i = ⟨evalIdx F p es i, evalIdx F p (DList v es) i⟩) with
  | const c => simp [evalDual, eval, D, Dual.ofConst]
  | var i => by_cases h : i = v <;> simp [evalDual, eval, D, h]
  | add a b ha hb | sub a b ha hb | mul a b ha hb | div a b ha hb =>
    simp [evalDual, eval, D, Dual.add, Dual.sub, Dual.mul, Dual.div, ha, hb]
  | neg a ha => simp [evalDual, eval, D, Dual.neg, ha]
  | pow a n ha =>
    cases n with
    | zero => simp [evalDual, eval, D, Dual.npow, Dual.ofConst, npow]
    | succ n => simp [evalDual, eval, D, Dual.npow_eq, npow_eq_pow, ha]
  | sum es h | prod es h | idx es i h | fn k ord a h => simp [evalDual, eval, D, h]
  | nil =>
    simp [dualSum, dualProd, dualIdx, evalSum, evalProd, evalIdx, DList, DProd, eval, Dual.ofConst]
  | cons e es he hes =>
    refine ⟨?_, ?_, fun i => ?_⟩
    · simp [dualSum, evalSum, DList, Dual.add, he, hes]
    · simp [dualProd, evalProd, DProd, eval, Dual.mul, he, hes]
    · cases i <;> simp [dualIdx, evalIdx, DList, he, hes]

/-- **the dual-number evaluator is a correct derivative oracle**: over any commutative ring, with
    any division and any family of named functions with their derivatives, the `ε`-part of the
    forward-mode evaluation is the value of the symbolic derivative `D`. -/
theorem dual_correct (F : FnEnv α) (p : List α) (v : Nat) (e : Expr α) :
    (evalDual F p v e).eps = eval F p (D v e) := by
  rw [evalDual_eq]

/-- … and its real part is the value -/
theorem dual_value (F : FnEnv α) (p : List α) (v : Nat) (e : Expr α) :
    (evalDual F p v e).val = eval F p e := by
  rw [evalDual_eq]

/-- the gradient oracle the driver prints is the vector of symbolic partial derivatives -/
theorem gradient_is_symbolic (F : FnEnv α) (p : List α) (e : Expr α) :
    gradient F p e = (List.range p.length).map fun v => eval F p (D v e) := by
  simp [gradient, dual_correct]

/-- **general power rule** (variable exponent; `F 5` is `exp`, `F 6` is `log`, their places in
    `fnNames`, as `gpow` uses them): with `exp' = exp`, the derivative of `u^v = exp (v · ln u)` is
    `u^v · (v' · ln u + v · ln'(u) · u')`; with `ln'(u) = 1/u` that is
    `v·u^(v-1)·u' + u^v·ln(u)·v'` — the second term is the one a constant-exponent rule lacks. -/
theorem gpow_rule (F : FnEnv α) (p : List α) (v : Nat) (a b : Expr α)
    (hexp : ∀ x, F 5 1 x = F 5 0 x) :
    eval F p (D v (gpow a b)) =
      eval F p (gpow a b) *
        (eval F p (D v b) * F 6 0 (eval F p a) + eval F p b * (F 6 1 (eval F p a) * eval F p (D v a))) := by
  simp [gpow, D, eval, hexp]

/-- … and the dual-number oracle computes that -/
theorem gpow_dual (F : FnEnv α) (p : List α) (v : Nat) (a b : Expr α)
    (hexp : ∀ x, F 5 1 x = F 5 0 x) :
    (evalDual F p v (gpow a b)).eps =
      eval F p (gpow a b) *
        (eval F p (D v b) * F 6 0 (eval F p a) + eval F p b * (F 6 1 (eval F p a) * eval F p (D v a))) := by
  rw [dual_correct, gpow_rule F p v a b hexp]

end Dual

section Poly
variable {α : Type}

mutual
def isPoly : Expr α → Bool
  | .const _ => true
  | .var _ => true
  | .add a b => isPoly a && isPoly b
  | .sub a b => isPoly a && isPoly b
  | .mul a b => isPoly a && isPoly b
  | .div _ _ => false
  | .neg a => isPoly a
  | .pow a _ => isPoly a
  | .sum es => allPoly es
  | .prod es => allPoly es
  | .idx es _ => allPoly es
  | .fn _ _ _ => false
def allPoly : List (Expr α) → Bool
  | [] => true
  | e :: es => isPoly e && allPoly es
end

variable [CommRing α]

/-- `X₁` is the coefficient of `t` in `X'`, up to `t²` -/
def Expands (t X' X X1 : α) : Prop := ∃ r, X' = X + t * X1 + t * t * r

theorem Expands.const (t c : α) : Expands t c c 0 := ⟨0, by ring⟩

theorem Expands.neg {t A' A A1 : α} (ha : Expands t A' A A1) : Expands t (-A') (-A) (-A1) := by
  obtain ⟨r, rfl⟩ := ha
  exact ⟨-r, by ring⟩

theorem Expands.add {t A' A A1 B' B B1 : α} (ha : Expands t A' A A1) (hb : Expands t B' B B1) :
    Expands t (A' + B') (A + B) (A1 + B1) := by
  obtain ⟨r, rfl⟩ := ha
  obtain ⟨s, rfl⟩ := hb
  exact ⟨r + s, by ring⟩

theorem Expands.mul {t A' A A1 B' B B1 : α} (ha : Expands t A' A A1) (hb : Expands t B' B B1) :
    Expands t (A' * B') (A * B) (A1 * B + A * B1) := by
  obtain ⟨r, rfl⟩ := ha
  obtain ⟨s, rfl⟩ := hb
  exact ⟨A * s + A1 * B1 + r * B + t * (A1 * s + r * B1) + t * t * (r * s), by ring⟩

theorem Expands.pow {t A' A A1 : α} (ha : Expands t A' A A1) (n : Nat) :
    Expands t (A' ^ (n + 1)) (A ^ (n + 1)) (((n + 1 : Nat) : α) * A ^ n * A1) := by
  induction n with
  | zero => simpa using ha
  | succ n ih =>
    obtain ⟨r, hr⟩ := ih.mul ha
    refine ⟨r, ?_⟩
    rw [pow_succ, hr]
    push_cast
    ring

def shift (p : List α) (v : Nat) (t : α) : List α := p.set v (p.getD v ((0 : Nat) : α) + t)

theorem shift_getD_self (p : List α) (v : Nat) (t : α) (hv : v < p.length) :
    (shift p v t).getD v ((0 : Nat) : α) = p.getD v ((0 : Nat) : α) + t := by
  simp [shift, List.getD_eq_getElem?_getD, hv]

theorem shift_getD_ne (p : List α) (v i : Nat) (t : α) (h : i ≠ v) :
    (shift p v t).getD i ((0 : Nat) : α) = p.getD i ((0 : Nat) : α) := by
  simp [shift, List.getD_eq_getElem?_getD, List.getElem?_set_ne (Ne.symm h)]

variable [Div α]

/-- **`D` is the derivative, algebraically**: for every polynomial expression (no division, no
    named function) over any commutative ring,
        `eval e (p + t·e_v) = eval e p + t · eval (D v e) p + t² · r`.
    So the symbolic derivative — and by `dual_correct` the dual-number oracle — is the
    coefficient of the linear term, which is what "the derivative" means without limits. -/
theorem D_is_linear_coefficient (F : FnEnv α) (p : List α) (v : Nat) (hv : v < p.length) (t : α)
    (e : Expr α) (he : isPoly e = true) :
    ∃ r, eval F (shift p v t) e = eval F p e + t * eval F p (D v e) + t * t * r := by
  change Expands t _ _ _
  induction e using Expr.rec
    (motive_2 := fun es => allPoly es = true →
      Expands t (evalSum F (shift p v t) es) (evalSum F p es) (evalSum F p (DList v es))
      ∧ Expands t (evalProd F (shift p v t) es) (evalProd F p es) (eval F p (DProd v es))
      ∧ ∀ i, Expands t (evalIdx F (shift p v t) es i) (evalIdx F p es i)
          (evalIdx F p (DList v es) i)) with
  | const c => simpa [eval, D] using Expands.const t c
  | var i =>
    by_cases h : i = v
    · subst h
      simp only [eval, D, if_true, shift_getD_self p i t hv]
      exact ⟨0, by push_cast; ring⟩
    · simp only [eval, D, if_neg h, shift_getD_ne p v i t h]
      exact ⟨0, by push_cast; ring⟩
  | add a b ha hb =>
    simp only [isPoly, Bool.and_eq_true] at he
    simpa [eval, D] using (ha he.1).add (hb he.2)
  | sub a b ha hb =>
    simp only [isPoly, Bool.and_eq_true] at he
    simpa [eval, D, sub_eq_add_neg] using (ha he.1).add (hb he.2).neg
  | mul a b ha hb =>
    simp only [isPoly, Bool.and_eq_true] at he
    simpa [eval, D] using (ha he.1).mul (hb he.2)
  | div a b | fn k ord a => simp [isPoly] at he
  | neg a ha => simpa [eval, D] using (ha he).neg
  | pow a n ha =>
    cases n with
    | zero => simpa [eval, D, npow] using Expands.const t (1 : α)
    | succ n => simpa [eval, D, npow_eq_pow] using (ha he).pow n
  | sum es h => simpa [eval, D] using (h he).1
  | prod es h => simpa [eval, D] using (h he).2.1
  | idx es i h => simpa [eval, D] using (h he).2.2 i
  | nil =>
    refine ⟨?_, ?_, fun i => ?_⟩
    · simpa [evalSum, DList] using Expands.const t (0 : α)
    · simpa [evalProd, DProd, eval] using Expands.const t (1 : α)
    · simpa [evalIdx, DList] using Expands.const t (0 : α)
  | cons e es he hes =>
    -- `induction` has introduced the premise `allPoly (e :: es) = true` unnamed
    rename_i hp
    simp only [allPoly, Bool.and_eq_true] at hp
    obtain ⟨hs, hpr, hi⟩ := hes hp.2
    refine ⟨?_, ?_, fun i => ?_⟩
    · simpa [evalSum, DList] using (he hp.1).add hs
    · simpa [evalProd, DProd, eval] using (he hp.1).mul hpr
    · cases i with
      | zero => simpa [evalIdx, DList] using he hp.1
      | succ i => simpa [evalIdx, DList] using hi i

end Poly

section Quadratic
variable {α : Type} [Field α]

/-- **central differences are exact for quadratics**: if, along coordinate `idx`, `f` is
    `a·t² + b·t + c`, then the central difference is `2·a·x_idx + b` — the derivative —
    for every step with `2·eps ≠ 0`. -/
theorem central_diff_exact_quadratic (f : List α → α) (eps : α) (x : List α) (idx : Nat)
    (a b c : α) (h2 : (2 : α) ≠ 0) (heps : eps ≠ 0)
    (hq : ∀ t, f (x.set idx t) = a * t * t + b * t + c) :
    centralDiff f eps x idx = 2 * a * x.getD idx 0 + b := by
  simp only [centralDiff, hq, Nat.cast_ofNat, Nat.cast_zero]
  rw [div_eq_iff (mul_ne_zero h2 heps)]
  ring

/-- … hence `numeric_grad` returns the exact partial derivative of such an `f` -/
theorem numgrad_exact_quadratic (f : List α → α) (eps : α) (x : List α) (idx : Nat)
    (hidx : idx < x.length) (a b c : α) (h2 : (2 : α) ≠ 0) (heps : eps ≠ 0)
    (hq : ∀ t, f (x.set idx t) = a * t * t + b * t + c) :
    (numGrad f eps x)[idx]? = some (2 * a * x.getD idx 0 + b) := by
  rw [numGrad_getElem? hidx, central_diff_exact_quadratic f eps x idx a b c h2 heps hq]

end Quadratic

/-- d/dx₀ (x₀² · x₁) at (3, 5) = 2·3·5 -/
example : (evalDual (fun _ _ x => x) [3, 5] 0
    (.mul (.pow (.var 0) 2) (.var 1) : Expr Int)).eps = 30 := by decide

example : eval (fun _ _ x => x) [3, 5] (D 0 (.mul (.pow (.var 0) 2) (.var 1) : Expr Int)) = 30 := by
  decide

/-- product rule over a three-element `*/` and the sum rule, at (2, 3, 5) -/
example : gradient (fun _ _ x => x) [2, 3, 5]
    (.add (.prod [.var 0, .var 1, .var 2]) (.sum [.var 0, .idx [.var 1, .var 2] 1]) : Expr Int)
    = [16, 10, 7] := by decide

/-- moving x₀ by t in x₀²·x₁ at (3, 5): 45 + 30 t + 5 t² -/
example (t : Int) : ∃ r, eval (fun _ _ x => x) (shift [3, 5] 0 t) (.mul (.pow (.var 0) 2) (.var 1) : Expr Int)
    = 45 + t * 30 + t * t * r :=
  D_is_linear_coefficient (fun _ _ x => x) [3, 5] 0 (by decide) t _ (by decide)

/-- numeric_grad of x₀·x₁ over Int with eps = 1 (Int division by 2 exact here); then the probes -/
example : numGrad (fun y : List Int => y.getD 0 0 * y.getD 1 0) 1 [3, 5] = [5, 3] := by decide

example : (numGradState (fun y : List Int => y.getD 0 0 * y.getD 1 0) 1 [3, 5]).probes
    = [[4, 5], [2, 5], [3, 6], [3, 4]] := by decide

/-- orientation: g(x) = (x₀·x₁, x₁) has Jacobian [[x₁, x₀], [0, 1]] — not its transpose -/
example : numJacobian (fun y : List Int => [y.getD 0 0 * y.getD 1 0, y.getD 1 0]) 1 [3, 5]
    = [[5, 3], [0, 1]] := by decide

/-- two parameters w = (3), b = (5), loss = w·b: gradients 5 and 3, and while `b` is
    perturbed `w` keeps its value -/
example : multiGrad (fun ps : List (List Int) => (ps.getD 0 []).getD 0 0 * (ps.getD 1 []).getD 0 0)
    1 [[3], [5]] = [[5], [3]] := by decide

example : (multiGradState (fun ps : List (List Int) => (ps.getD 0 []).getD 0 0 * (ps.getD 1 []).getD 0 0)
    1 [[3], [5]]).probes = [[[4], [5]], [[2], [5]], [[3], [6]], [[3], [4]]] := by decide

/-- a quadratic along coordinate 0 over ℚ: f(y) = 3·y₀² + y₀·y₁ + 7 at (2, 5): ∂/∂y₀ = 17 -/
example : centralDiff (fun y : List ℚ => 3 * y.getD 0 0 * y.getD 0 0 + y.getD 1 0 * y.getD 0 0 + 7)
    (1 / 1000000) [2, 5] 0 = 2 * 3 * ([2, 5] : List ℚ).getD 0 0 + 5 :=
  central_diff_exact_quadratic _ _ _ 0 3 5 7 (by norm_num) (by norm_num)
    (by intro t; simp)

end Klong.C06
