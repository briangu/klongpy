/-
  C19 — the buffered table machine of Klong/Model/C19.lean refines the abstract table `Spec`.
  A strictly key-sorted list is a canonical finite map (`ssorted_ext`), so an indexed `commit()` is
  the abstract table's row-by-row `upsert` of the buffer (`commitIdx_eq_foldl`).  `sort_index` on
  distinct keys is repeated `upsert` too (`upsert_eq_insertRow`), so strict sortedness is proved
  once, for `upsert`.
-/
import Klong.Model.C19
namespace Klong.C19

/-! ## the order on keys is a linear order -/

structure LinOrd {α : Type} (le : α → α → Bool) : Prop where
  total : ∀ a b, le a b = true ∨ le b a = true
  antisymm : ∀ a b, le a b = true → le b a = true → a = b
  trans : ∀ a b c, le a b = true → le b c = true → le a c = true

section Lex
variable {α : Type} [DecidableEq α] {le : α → α → Bool}

theorem lexLe_nil_left (b : List α) : lexLe le [] b = true := by
  cases b <;> rfl

theorem lexLe_total (h : LinOrd le) : ∀ a b : List α, lexLe le a b = true ∨ lexLe le b a = true
  | [], b => Or.inl (lexLe_nil_left b)
  | _ :: _, [] => Or.inr rfl
  | a :: as, b :: bs => by
    simp only [lexLe]
    by_cases hab : a = b
    · subst hab
      simpa using lexLe_total h as bs
    · simpa [hab, Ne.symm hab] using h.total a b

theorem lexLe_antisymm (h : LinOrd le) :
    ∀ a b : List α, lexLe le a b = true → lexLe le b a = true → a = b
  | [], [] => fun _ _ => rfl
  | [], _ :: _ | _ :: _, [] => by simp [lexLe]
  | a :: as, b :: bs => by
    simp only [lexLe]
    by_cases hab : a = b
    · subst hab
      simpa using lexLe_antisymm h as bs
    · simpa [hab, Ne.symm hab] using fun h1 h2 => hab (h.antisymm a b h1 h2)

theorem lexLe_trans (h : LinOrd le) :
    ∀ a b c : List α, lexLe le a b = true → lexLe le b c = true → lexLe le a c = true
  | [], _, c => fun _ _ => lexLe_nil_left c
  | _ :: _, [], _ | _ :: _, _ :: _, [] => by simp [lexLe]
  | x :: xs, y :: ys, z :: zs => by
    simp only [lexLe]
    by_cases hxy : x = y <;> by_cases hyz : y = z
    · subst hxy hyz
      simpa using lexLe_trans h xs ys zs
    · subst hxy
      simp [hyz]
    · subst hyz
      simpa [hxy] using fun h _ => h
    · simp only [hxy, hyz, if_false]
      intro h1 h2
      split
      · next hxz => exact absurd (h.antisymm x y h1 (hxz ▸ h2)) hxy
      · exact h.trans x y z h1 h2

theorem lexLe_linOrd (h : LinOrd le) : LinOrd (lexLe le) :=
  ⟨lexLe_total h, lexLe_antisymm h, lexLe_trans h⟩
end Lex

theorem natLe_linOrd : LinOrd natLe where
  total a b := by simpa [natLe] using Nat.le_total a b
  antisymm a b := by simpa [natLe] using Nat.le_antisymm
  trans a b c := by simpa [natLe] using Nat.le_trans

theorem Cell.le_linOrd : LinOrd Cell.le where
  total a b := by
    cases a <;> cases b <;> simp [Cell.le]
    · exact Int.le_total _ _
    · exact lexLe_total natLe_linOrd _ _
  antisymm a b := by
    cases a <;> cases b <;> simp [Cell.le]
    · exact Int.le_antisymm
    · exact lexLe_antisymm natLe_linOrd _ _
  trans a b c := by
    cases a <;> cases b <;> cases c <;> simp [Cell.le]
    · exact Int.le_trans
    · exact lexLe_trans natLe_linOrd _ _ _

theorem Key.le_linOrd : LinOrd Key.le :=
  lexLe_linOrd Cell.le_linOrd

theorem Key.le_refl (a : Key) : Key.le a a = true :=
  (Key.le_linOrd.total a a).elim id id

/-! ## strictly key-sorted lists -/

def klt (a b : Key) : Prop := Key.le a b = true ∧ a ≠ b

theorem klt_trans {a b c : Key} (h1 : klt a b) (h2 : klt b c) : klt a c :=
  ⟨Key.le_linOrd.trans a b c h1.1 h2.1,
    fun hac => h1.2 (Key.le_linOrd.antisymm a b h1.1 (hac ▸ h2.1))⟩

theorem klt_asymm {a b : Key} (h1 : klt a b) (h2 : klt b a) : False :=
  h1.2 (Key.le_linOrd.antisymm a b h1.1 h2.1)

def SSorted (kf : Row → Key) (l : List Row) : Prop := l.Pairwise (fun a b => klt (kf a) (kf b))

theorem SSorted.nodup {kf : Row → Key} {l : List Row} (h : SSorted kf l) : (l.map kf).Nodup :=
  List.pairwise_map.mpr (h.imp fun hab => hab.2)

section Keyed
variable (kf : Row → Key)

@[simp] theorem findKey_nil (k : Key) : findKey kf k [] = none := rfl

theorem findKey_cons (k : Key) (r : Row) (l : List Row) :
    findKey kf k (r :: l) = if kf r = k then some r else findKey kf k l := by
  by_cases h : kf r = k <;> simp [findKey, h]

theorem findKey_append (k : Key) (a b : List Row) :
    findKey kf k (a ++ b) = (findKey kf k a).or (findKey kf k b) := by
  simp [findKey, List.find?_append]

theorem findKey_some {kf : Row → Key} {k : Key} {l : List Row} {r : Row}
    (h : findKey kf k l = some r) : r ∈ l ∧ kf r = k :=
  ⟨List.mem_of_find?_eq_some h, by simpa using List.find?_some h⟩

theorem findKey_eq_none {k : Key} {l : List Row} :
    findKey kf k l = none ↔ ∀ r ∈ l, kf r ≠ k := by
  simp [findKey]

theorem findKey_map (f : Row → Row) (hf : ∀ r, kf (f r) = kf r) (k : Key) (l : List Row) :
    findKey kf k (l.map f) = (findKey kf k l).map f := by
  simp only [findKey, List.find?_map, Function.comp_def, hf]

theorem findKey_filter {q : Row → Bool} {b : Bool} (k : Key) (l : List Row)
    (hq : ∀ r, kf r = k → q r = b) :
    findKey kf k (l.filter q) = if b then findKey kf k l else none := by
  have (r : Row) : decide (q r = true ∧ (kf r == k) = true) = (b && kf r == k) := by
    by_cases h : kf r = k <;> simp [h, hq r]
  simp only [findKey, List.find?_filter, this]
  cases b <;> simp

theorem findLast_nil (k : Key) : findLast kf k [] = none := rfl

theorem findLast_append (k : Key) (a b : List Row) :
    findLast kf k (a ++ b) = (findLast kf k b).or (findLast kf k a) := by
  simp [findLast, List.reverse_append, findKey_append]

theorem findLast_cons (k : Key) (r : Row) (l : List Row) :
    findLast kf k (r :: l) = (findLast kf k l).or (if kf r = k then some r else none) := by
  simp [findLast, findKey_append, findKey_cons]

theorem findLast_eq_none {k : Key} {l : List Row} :
    findLast kf k l = none ↔ ∀ r ∈ l, kf r ≠ k := by
  simp [findLast, findKey_eq_none]

theorem findLast_some {k : Key} {l : List Row} {r : Row} (h : findLast kf k l = some r) :
    r ∈ l ∧ kf r = k := by
  simpa using findKey_some h

theorem hasKey_eq_isSome (l : List Row) (k : Key) : hasKey kf l k = (findKey kf k l).isSome := by
  simp [hasKey, findKey, List.isSome_find?]

theorem any_key_eq_isSome (l : List Row) (k : Key) :
    l.any (fun q => kf q == k) = (findLast kf k l).isSome := by
  simp [findLast, findKey, List.isSome_find?]

theorem findKey_upsert (r : Row) (l : List Row) (k : Key) :
    findKey kf k (upsert kf r l) = if kf r = k then some r else findKey kf k l := by
  -- the cases of `upsert`: `[]` (1); the head `q` has the key of `r` and is replaced (2); `r` goes
  -- in front of `q` (3); `r` goes behind `q` (4)
  fun_induction upsert kf r l with
  | case1 => simp [findKey_cons]
  | case2 q qs hq =>
    simp only [findKey_cons, hq]
    split <;> rfl
  | case3 q qs hq hle => simp [findKey_cons]
  | case4 q qs hq hle ih =>
    simp only [findKey_cons, ih]
    split
    · next h => rw [if_neg fun e => hq (h.trans e.symm)]
    · rfl

theorem mem_upsert {kf : Row → Key} {r a : Row} {l : List Row} (h : a ∈ upsert kf r l) :
    a = r ∨ a ∈ l := by
  fun_induction upsert kf r l with
  | case1 => simpa using h
  | case2 q qs hq => exact (List.mem_cons.mp h).imp_right (List.mem_cons_of_mem q)
  | case3 q qs hq hle => exact List.mem_cons.mp h
  | case4 q qs hq hle ih =>
    rcases List.mem_cons.mp h with h | h
    · exact Or.inr (h ▸ List.mem_cons_self)
    · exact (ih h).imp_right (List.mem_cons_of_mem q)

theorem ssorted_upsert {kf : Row → Key} (r : Row) {l : List Row} (h : SSorted kf l) :
    SSorted kf (upsert kf r l) := by
  fun_induction upsert kf r l with
  | case1 => exact List.pairwise_singleton _ _
  | case2 q qs hk =>
    have ⟨hq, hqs⟩ := List.pairwise_cons.mp h
    exact List.pairwise_cons.mpr ⟨fun a ha => hk ▸ hq a ha, hqs⟩
  | case3 q qs hk hle =>
    have hrq : klt (kf r) (kf q) := ⟨hle, fun e => hk e.symm⟩
    refine List.pairwise_cons.mpr ⟨List.forall_mem_cons.mpr ⟨hrq, fun a ha => ?_⟩, h⟩
    exact klt_trans hrq (List.rel_of_pairwise_cons h ha)
  | case4 q qs hk hle ih =>
    have ⟨hq, hqs⟩ := List.pairwise_cons.mp h
    refine List.pairwise_cons.mpr ⟨fun a ha => ?_, ih hqs⟩
    rcases mem_upsert ha with rfl | ha
    · exact ⟨(Key.le_linOrd.total _ _).resolve_left hle, hk⟩
    · exact hq a ha

theorem ssorted_foldl_upsert (rs l : List Row) (h : SSorted kf l) :
    SSorted kf (rs.foldl (fun acc r => upsert kf r acc) l) := by
  induction rs generalizing l with
  | nil => exact h
  | cons r rs ih => exact ih _ (ssorted_upsert r h)

theorem findKey_foldl_upsert (k : Key) (rs l : List Row) :
    findKey kf k (rs.foldl (fun acc r => upsert kf r acc) l) = (findLast kf k rs).or (findKey kf k l) := by
  induction rs generalizing l with
  | nil => simp [findLast_nil]
  | cons r rs ih =>
    rw [List.foldl_cons, ih, findKey_upsert, findLast_cons]
    by_cases h : kf r = k <;> simp [h]

theorem insertRow_perm (r : Row) (l : List Row) : (insertRow kf r l).Perm (r :: l) := by
  -- the cases of `insertRow`: `[]` (1); `r` goes in front of the head `q` (2); behind it (3)
  fun_induction insertRow kf r l with
  | case1 | case2 => exact List.Perm.refl _
  | case3 q qs _ ih => exact (ih.cons q).trans (List.Perm.swap r q qs)

theorem sortRows_perm (l : List Row) : (sortRows kf l).Perm l := by
  induction l with
  | nil => exact List.Perm.refl _
  | cons r rs ih => exact (insertRow_perm kf r _).trans (ih.cons r)

/-- the model's sort sorts, whatever the keys (`sortRows_sorted`); no other proof uses it -/
theorem insertRow_sorted (r : Row) (l : List Row)
    (h : l.Pairwise fun a b => Key.le (kf a) (kf b) = true) :
    (insertRow kf r l).Pairwise fun a b => Key.le (kf a) (kf b) = true := by
  fun_induction insertRow kf r l with
  | case1 => exact List.pairwise_singleton _ _
  | case2 q qs hle =>
    refine List.pairwise_cons.mpr ⟨List.forall_mem_cons.mpr ⟨hle, fun a ha => ?_⟩, h⟩
    exact Key.le_linOrd.trans _ _ _ hle (List.rel_of_pairwise_cons h ha)
  | case3 q qs hle ih =>
    have ⟨hq, hqs⟩ := List.pairwise_cons.mp h
    refine List.pairwise_cons.mpr ⟨fun a ha => ?_, ih hqs⟩
    rcases List.mem_cons.mp ((insertRow_perm kf r qs).mem_iff.mp ha) with rfl | ha
    · exact (Key.le_linOrd.total _ _).resolve_left hle
    · exact hq a ha

theorem sortRows_sorted (l : List Row) :
    (sortRows kf l).Pairwise fun a b => Key.le (kf a) (kf b) = true := by
  induction l with
  | nil => exact List.Pairwise.nil
  | cons r rs ih => exact insertRow_sorted kf r _ ih

theorem keys_sortRows_perm (l : List Row) : ((sortRows kf l).map kf).Perm (l.map kf) :=
  (sortRows_perm kf l).map kf

theorem findKey_insertRow (k : Key) (r : Row) (l : List Row) :
    findKey kf k (insertRow kf r l) = if kf r = k then some r else findKey kf k l := by
  fun_induction insertRow kf r l with
  | case1 | case2 => simp [findKey_cons]
  | case3 q qs hle ih =>
    simp only [findKey_cons, ih]
    split
    · next hq => rw [if_neg fun hr => hle (Eq.trans hr hq.symm ▸ Key.le_refl _)]
    · rfl

/-- the sort is stable -/
theorem findKey_sortRows (k : Key) (l : List Row) : findKey kf k (sortRows kf l) = findKey kf k l := by
  induction l with
  | nil => rfl
  | cons r rs ih => simp only [sortRows, findKey_insertRow, ih, findKey_cons]

theorem upsert_eq_insertRow {r : Row} {l : List Row} (h : ∀ q ∈ l, kf q ≠ kf r) :
    upsert kf r l = insertRow kf r l := by
  induction l with
  | nil => rfl
  | cons q qs ih =>
    have ⟨hq, hqs⟩ := List.forall_mem_cons.mp h
    simp only [upsert, insertRow, hq, if_false, ih hqs]

theorem ssorted_sortRows {kf : Row → Key} {l : List Row} (h : (l.map kf).Nodup) :
    SSorted kf (sortRows kf l) := by
  induction l with
  | nil => exact List.Pairwise.nil
  | cons r rs ih =>
    have ⟨hr, hrs⟩ := List.nodup_cons.mp h
    rw [sortRows, ← upsert_eq_insertRow kf fun q hq e =>
      hr (e ▸ List.mem_map_of_mem ((sortRows_perm kf rs).mem_iff.mp hq))]
    exact ssorted_upsert r (ih hrs)

theorem dropDupRows_sublist (l : List Row) : (dropDupRows l).Sublist l := by
  induction l with
  | nil => exact List.Sublist.refl _
  | cons r rs ih => exact (List.filter_sublist.trans ih).cons_cons r

theorem findKey_dropDupRows (k : Key) (l : List Row) :
    findKey kf k (dropDupRows l) = findKey kf k l := by
  induction l with
  | nil => rfl
  | cons r rs ih =>
    simp only [dropDupRows, findKey_cons]
    split
    · rfl
    · next h =>
      -- the filter drops copies of `r`, whose key is not `k`
      have hq : ∀ q, kf q = k → (q != r) = true := fun q hq => bne_iff_ne.mpr fun e => h (e ▸ hq)
      rw [findKey_filter kf k _ hq, if_pos rfl, ih]

theorem dropDupRows_of_nodup_keys {kf : Row → Key} {l : List Row} (h : (l.map kf).Nodup) :
    dropDupRows l = l := by
  induction l with
  | nil => rfl
  | cons r rs ih =>
    have ⟨hr, hrs⟩ := List.nodup_cons.mp h
    rw [dropDupRows, ih hrs, List.filter_eq_self.mpr]
    intro q hq
    exact bne_iff_ne.mpr fun e => hr (e ▸ List.mem_map_of_mem hq)

theorem dedupLast_sublist (l : List Row) : (dedupLast kf l).Sublist l := by
  -- the cases of `dedupLast`: `[]` (1); the key of the head `r` comes again, `r` goes (2); else (3)
  fun_induction dedupLast kf l with
  | case1 => exact List.Sublist.refl _
  | case2 r rs _ ih => exact ih.cons r
  | case3 r rs _ ih => exact ih.cons_cons r

theorem nodup_keys_dedupLast (l : List Row) : ((dedupLast kf l).map kf).Nodup := by
  fun_induction dedupLast kf l with
  | case1 => exact List.nodup_nil
  | case2 r rs _ ih => exact ih
  | case3 r rs hany ih =>
    refine List.nodup_cons.mpr ⟨fun hmem => hany ?_, ih⟩
    obtain ⟨q, hq, hk⟩ := List.mem_map.mp hmem
    exact List.any_eq_true.mpr ⟨q, (dedupLast_sublist kf rs).subset hq, beq_iff_eq.mpr hk⟩

theorem findKey_dedupLast (k : Key) (l : List Row) : findKey kf k (dedupLast kf l) = findLast kf k l := by
  induction l with
  | nil => rfl
  | cons r rs ih =>
    simp only [dedupLast, findLast_cons, any_key_eq_isSome]
    by_cases hr : kf r = k
    · subst hr
      cases hf : findLast kf (kf r) rs <;> simp [hf, findKey_cons, ih]
    · split <;> simp [findKey_cons, hr, ih]

theorem mem_iff_findKey {kf : Row → Key} {l : List Row} (h : SSorted kf l) {r : Row} :
    r ∈ l ↔ findKey kf (kf r) l = some r := by
  refine ⟨fun hr => ?_, fun hf => (findKey_some hf).1⟩
  induction l with
  | nil => cases hr
  | cons q qs ih =>
    have ⟨hq, hqs⟩ := List.pairwise_cons.mp h
    rw [findKey_cons]
    rcases List.mem_cons.mp hr with rfl | hr
    · simp
    · rw [if_neg (hq r hr).2, ih hqs hr]

/-- the two lists have the same rows, and a strict order admits one sorted arrangement of them -/
theorem ssorted_ext {kf : Row → Key} {x y : List Row} (hx : SSorted kf x) (hy : SSorted kf y)
    (h : ∀ k, findKey kf k x = findKey kf k y) : x = y := by
  have nodup {l : List Row} (hl : SSorted kf l) : l.Nodup :=
    hl.imp fun hab e => hab.2 (congrArg kf e)
  have hp : x.Perm y := (List.perm_ext_iff_of_nodup (nodup hx) (nodup hy)).mpr fun r => by
    rw [mem_iff_findKey hx, mem_iff_findKey hy, h]
  exact hp.eq_of_pairwise (fun a b _ _ hab hba => (klt_asymm hab hba).elim) hx hy

theorem findKey_createIndex (k : Key) (l : List Row) :
    findKey kf k (createIndex kf l) = findKey kf k l := by
  simp only [createIndex, findKey_dropDupRows, findKey_sortRows]

theorem createIndex_of_nodup_keys {kf : Row → Key} {l : List Row} (h : (l.map kf).Nodup) :
    createIndex kf l = sortRows kf l :=
  dropDupRows_of_nodup_keys ((keys_sortRows_perm kf l).nodup_iff.mpr h)

theorem mem_createIndex {kf : Row → Key} {r : Row} {l : List Row} (h : r ∈ createIndex kf l) :
    r ∈ l :=
  (sortRows_perm kf l).mem_iff.mp ((dropDupRows_sublist _).subset h)

theorem findKey_commitIdx (C B : List Row) (k : Key) :
    findKey kf k (commitIdx kf C B) = (findLast kf k B).or (findKey kf k C) := by
  simp only [commitIdx, findKey_sortRows, findKey_append, hasKey_eq_isSome]
  rw [findKey_filter kf k C fun r hr => by rw [hr], findKey_createIndex, findKey_dedupLast]
  cases findLast kf k B <;> simp

theorem mem_commitIdx {kf : Row → Key} {C B : List Row} {r : Row} (h : r ∈ commitIdx kf C B) :
    r ∈ C ∨ r ∈ B :=
  (List.mem_append.mp ((sortRows_perm kf _).mem_iff.mp h)).imp (fun h => (List.mem_filter.mp h).1)
    fun h => (dedupLast_sublist kf B).subset (mem_createIndex h)

/-- the kept rows of `C`, the buffer's rows and the two together have one row per key -/
theorem ssorted_commitIdx {kf : Row → Key} {C : List Row} (B : List Row) (hC : (C.map kf).Nodup) :
    SSorted kf (commitIdx kf C B) := by
  have hB := nodup_keys_dedupLast kf B
  apply ssorted_sortRows
  rw [createIndex_of_nodup_keys hB, List.map_append, List.nodup_append]
  refine ⟨hC.sublist (List.filter_sublist.map kf), (keys_sortRows_perm kf _).nodup_iff.mpr hB, ?_⟩
  simp only [List.mem_map, List.mem_filter]
  rintro _ ⟨c, ⟨_, hc⟩, rfl⟩ _ ⟨q, hq, rfl⟩ e
  simp only [hasKey, e, Bool.not_eq_true', List.any_eq_false, beq_iff_eq] at hc
  exact hc q hq rfl

/-- both sides are strictly sorted and hold the same row for every key -/
theorem commitIdx_eq_foldl {kf : Row → Key} {C : List Row} (B : List Row) (h : SSorted kf C) :
    commitIdx kf C B = B.foldl (fun acc r => upsert kf r acc) C := by
  apply ssorted_ext (ssorted_commitIdx B h.nodup) (ssorted_foldl_upsert kf B C h)
  intro k
  rw [findKey_commitIdx, findKey_foldl_upsert]

end Keyed

/-- **commitIdx_spec** — what one `commit()` of an indexed table does, for every frame with
    one row per key and *every* buffer (any number of rows per key, in any order): the
    result is strictly sorted by key and holds, for every key, the last buffered row of the
    key if there is one and the row it held before otherwise. -/
theorem commitIdx_spec (kf : Row → Key) (C B : List Row) (hC : (C.map kf).Nodup) :
    SSorted kf (commitIdx kf C B) ∧
    ∀ k, findKey kf k (commitIdx kf C B) = (findLast kf k B).or (findKey kf k C) :=
  ⟨ssorted_commitIdx B hC, findKey_commitIdx kf C B⟩

/-- **commit_twice_eq_once** — flushing after `B₁` and again after `B₂` gives the frame that
    one flush of `B₁ ++ B₂` gives: when the buffer is flushed cannot be observed. -/
theorem commit_twice_eq_once (kf : Row → Key) (C B₁ B₂ : List Row) (h : SSorted kf C) :
    commitIdx kf (commitIdx kf C B₁) B₂ = commitIdx kf C (B₁ ++ B₂) := by
  rw [commitIdx_eq_foldl B₂ (ssorted_commitIdx B₁ h.nodup), commitIdx_eq_foldl B₁ h,
    commitIdx_eq_foldl _ h, List.foldl_append]

/-! ## the table: `commit`, `content`, the invariant -/

theorem commit_eq (t : Table) : commit t = { t with committed := content t, buffer := [] } := by
  obtain ⟨c, C, B, i⟩ := t
  cases B <;> cases i <;> rfl

@[simp] theorem commit_cols (t : Table) : (commit t).cols = t.cols := by rw [commit_eq]
@[simp] theorem commit_idx (t : Table) : (commit t).idx = t.idx := by rw [commit_eq]
@[simp] theorem commit_buffer (t : Table) : (commit t).buffer = [] := by rw [commit_eq]
theorem commit_committed (t : Table) : (commit t).committed = content t := rfl

theorem commit_of_nil (t : Table) (h : t.buffer = []) : commit t = t := by
  simp [commit, h]

@[simp] theorem commit_commit (t : Table) : commit (commit t) = commit t :=
  commit_of_nil _ (commit_buffer t)

@[simp] theorem content_commit (t : Table) : content (commit t) = content t := by
  simp [content]

theorem content_of_nil (t : Table) (h : t.buffer = []) : content t = t.committed := by
  simp [content, commit_of_nil t h]

theorem Spec.ins_nil (s : Spec) : s.ins [] = s.rows := by
  unfold Spec.ins
  split <;> simp

theorem Spec.ins_append (s : Spec) (a b : List Row) :
    Spec.ins { s with rows := s.ins a } b = s.ins (a ++ b) := by
  obtain ⟨cols, rows, idx⟩ := s
  cases idx <;> simp [Spec.ins, List.foldl_append]

/-- the frame and the buffer are rectangular; when indexed, the key columns exist and the frame is
    strictly sorted by them -/
structure Inv (t : Table) : Prop where
  wC : ∀ r ∈ t.committed, r.length = t.cols.length
  wB : ∀ r ∈ t.buffer, r.length = t.cols.length
  ix : ∀ ks, t.idx = some ks → (∀ k ∈ ks, k ∈ t.cols) ∧ SSorted (keyFn t.cols ks) t.committed

theorem rect_iff {rs : List Row} {w : Nat} : rect rs w = true ↔ ∀ r ∈ rs, r.length = w := by
  simp [rect]

theorem inv_create (cols : List Col) (rows : List Row) (h : rect rows cols.length = true) :
    Inv (create cols rows) :=
  ⟨rect_iff.mp h, nofun, nofun⟩

theorem content_eq_ins (t : Table) (hs : ∀ ks, t.idx = some ks → SSorted (keyFn t.cols ks) t.committed) :
    content t = Spec.ins ⟨t.cols, t.committed, t.idx⟩ t.buffer := by
  obtain ⟨cols, C, B, idx⟩ := t
  cases idx with
  | none => cases B <;> simp [content, commit, Spec.ins]
  | some ks => cases B <;> simp [content, commit, Spec.ins, commitIdx_eq_foldl _ (hs ks rfl)]

theorem mem_content {t : Table} {r : Row} (h : r ∈ content t) : r ∈ t.committed ∨ r ∈ t.buffer := by
  unfold content commit at h
  split at h
  · exact Or.inl h
  · split at h
    · exact List.mem_append.mp h
    · exact mem_commitIdx h

theorem content_ssorted {t : Table} (h : Inv t) {ks : List Col} (hi : t.idx = some ks) :
    SSorted (keyFn t.cols ks) (content t) := by
  rw [content_eq_ins t fun ks hi => (h.ix ks hi).2]
  simp only [Spec.ins, hi]
  exact ssorted_foldl_upsert _ _ _ (h.ix ks hi).2

theorem inv_commit {t : Table} (h : Inv t) : Inv (commit t) := by
  rw [commit_eq]
  exact ⟨fun r hr => (mem_content hr).elim (h.wC r) (h.wB r), nofun,
    fun ks hi => ⟨(h.ix ks hi).1, content_ssorted h hi⟩⟩

theorem keyFn_addCell {cols ks : List Col} (c : Col) {r : Row} (v : Cell)
    (hks : ∀ k ∈ ks, k ∈ cols) (hw : r.length = cols.length) :
    keyFn (cols ++ [c]) ks (r ++ [v]) = keyFn cols ks r := by
  simp only [keyFn, keyOf, positions, List.map_map]
  apply List.map_congr_left
  intro k hk
  have hlt := List.idxOf_lt_length_of_mem (hks k hk)
  simp [cellAt, List.idxOf_append, hks k hk, List.getElem?_append_left (hw ▸ hlt)]

theorem inv_buffer_append {t : Table} (h : Inv t) (rs : List Row)
    (hw : ∀ r ∈ rs, r.length = t.cols.length) : Inv { t with buffer := t.buffer ++ rs } :=
  ⟨h.wC, fun q hq => (List.mem_append.mp hq).elim (h.wB q) (hw q), h.ix⟩

theorem inv_rindex {t : Table} (h : Inv t) : Inv { t with idx := none } :=
  ⟨h.wC, h.wB, nofun⟩

theorem inv_index {t : Table} (h : Inv t) (ks : List Col) (hsub : ks ⊆ t.cols)
    (hnd : (t.committed.map (keyFn t.cols ks)).Nodup) :
    Inv { t with committed := createIndex (keyFn t.cols ks) t.committed, idx := some ks } where
  wC r hr := h.wC r (mem_createIndex hr)
  wB := h.wB
  ix ks' hi := by
    cases hi
    exact ⟨fun k hk => hsub hk, createIndex_of_nodup_keys hnd ▸ ssorted_sortRows hnd⟩

/-- row `i` of `addCells` is row `i` with a cell appended, so widths grow by one and keys stay -/
theorem inv_addCol {t : Table} (h : Inv t) (hb : t.buffer = []) (c : Col) (vs : List Cell) :
    Inv { t with cols := t.cols ++ [c], committed := addCells t.committed vs } where
  wC x hx := by
    obtain ⟨i, hi, rfl⟩ := List.getElem_of_mem hx
    simp [addCells, h.wC]
  wB := by simp [hb]
  ix ks hi :=
    have ⟨hks, hs⟩ := h.ix ks hi
    ⟨fun k hk => List.mem_append_left _ (hks k hk),
      List.pairwise_iff_getElem.mpr fun i j hi hj hij => by
        simp only [addCells, List.getElem_zipWith, keyFn_addCell c _ hks (h.wC _ (List.getElem_mem _))]
        exact List.pairwise_iff_getElem.mp hs i j _ _ hij⟩

/-- The `simp only` settles every leaf of `step` that returns `t` or `commit t`, by `h`, `hc`;
    `readCol`, `count`, `schema`, `selectAll` have no other.  Each other operation has one more, left
    as: the guards on the way to it, in the order of `step`, imply `Inv` of that leaf. -/
theorem inv_step {t : Table} (op : Op) (h : Inv t) : Inv (step t op).1 := by
  have hc := inv_commit h
  cases op <;>
    simp only [step, apply_ite Prod.fst, apply_ite Inv, h, hc, if_true_left, if_true_right, ite_self]
  case insert r =>
    intro hw
    exact inv_buffer_append h [r] (by simpa using hw)
  case insertb rs =>
    split
    · exact h
    · simp only [apply_ite Prod.fst, apply_ite Inv, h, if_true_left, if_true_right]
      intro hrect hw
      exact inv_buffer_append h _ fun q hq => (rect_iff.mp (by simpa using hrect) q hq).trans hw
  case rindex =>
    intro _
    exact inv_rindex hc
  case index ks =>
    -- guards: no index yet; `ks` is non-empty and names no column twice; its columns exist; the
    -- keys of the flushed rows are distinct
    intro _ _ hsub hnd
    exact inv_index hc ks (by simpa using hsub) (by simpa using hnd)
  case addCol c vs =>
    -- guards: the column is new; there is one cell per row
    intro _ _
    exact inv_addCol hc (commit_buffer t) c vs

theorem inv_run (t : Table) (ops : List Op) (h : Inv t) : Inv (run t ops).1 := by
  induction ops generalizing t with
  | nil => exact h
  | cons op ops ih => exact ih _ (inv_step op h)

/-! ## refinement, step by step -/

theorem abs_commit (t : Table) : abs (commit t) = abs t := by
  simp [abs]

theorem abs_cols (t : Table) : (abs t).cols = t.cols := rfl
theorem abs_idx (t : Table) : (abs t).idx = t.idx := rfl
theorem abs_rows (t : Table) : (abs t).rows = content t := rfl

theorem abs_flushed (c : List Col) (r : List Row) (i : Option (List Col)) :
    abs ⟨c, r, [], i⟩ = ⟨c, r, i⟩ := by
  simp [abs, content_of_nil]

theorem abs_insert {t : Table} (h : Inv t) (rs : List Row) :
    abs { t with buffer := t.buffer ++ rs } = { abs t with rows := (abs t).ins rs } := by
  have hs ks hi := (h.ix ks hi).2
  unfold abs
  rw [content_eq_ins { t with buffer := t.buffer ++ rs } hs, ← Spec.ins_append, ← content_eq_ins t hs]

def absOut (p : Table × Out) : Spec × Out := (abs p.1, p.2)

/-- `step` and `specStep` are one decision tree, and `abs` commutes with every leaf: a flush is
    invisible (`abs_commit`), a flushed table is its frame (`abs_flushed`), a longer buffer is an
    insert (`abs_insert`).  The closing `rfl`s identify the decidability instances of the two trees,
    which mention `(abs t).cols` on one side and `t.cols` on the other. -/
theorem step_refines {t : Table} (op : Op) (h : Inv t) :
    absOut (step t op) = specStep (abs t) op := by
  cases op
  case insertb rs =>
    cases rs with
    | nil => rfl
    | cons r0 rest =>
      simp only [step, specStep, apply_ite absOut]
      simp only [absOut, abs_cols, abs_idx, abs_insert h]
      rfl
  -- the rewriting closes `readCol`, `count`, `schema`, `selectAll`, which have one leaf
  all_goals
    simp only [step, specStep, apply_ite absOut]
    simp only [absOut, abs_cols, abs_idx, abs_rows, commit_cols, commit_idx, commit_committed,
      commit_buffer, abs_commit, abs_flushed, abs_insert h]
  case insert | rindex | addCol => rfl
  case index ks =>
    -- the trees differ in one leaf, reached only when the keys are unique
    by_cases hnd : ((content t).map (keyFn t.cols ks)).Nodup
    · simp only [createIndex_of_nodup_keys hnd]
      rfl
    · simp only [hnd, not_false_eq_true, if_true]

/-! ## histories of inserts and reads, on the abstract table -/

theorem inserted_cons (w : Nat) (op : Op) (ops : List Op) :
    inserted w (op :: ops) = inserted w [op] ++ inserted w ops := by
  cases op <;> simp [inserted]

theorem specStep_data (s : Spec) (op : Op) (hd : op.isData = true) :
    (specStep s op).1 = { s with rows := s.ins (inserted s.cols.length [op]) } := by
  cases op with
  | insert r =>
    simp only [specStep, inserted, List.append_nil]
    split <;> simp [Spec.ins_nil]
  | insertb rs =>
    cases rs with
    | nil => simp [specStep, inserted, Spec.ins_nil]
    | cons r0 rest =>
      cases hr : rect (r0 :: rest) r0.length <;>
        by_cases hw : s.cols.length = r0.length <;>
        simp [specStep, inserted, Spec.ins_nil, hr, hw, Ne.symm]
  | readCol _ | count | schema | selectAll => simp [specStep, inserted, Spec.ins_nil]
  | rindex | index _ | addCol _ _ => cases hd

theorem specRun_data (s : Spec) (ops : List Op) (hd : ∀ op ∈ ops, op.isData = true) :
    (specRun s ops).1 = { s with rows := s.ins (inserted s.cols.length ops) } := by
  induction ops generalizing s with
  | nil => simp [specRun, inserted, Spec.ins_nil]
  | cons op ops ih =>
    have ⟨h1, h2⟩ := List.forall_mem_cons.mp hd
    simp only [specRun]
    rw [ih _ h2, specStep_data s op h1, inserted_cons _ op ops, ← Spec.ins_append]

/-- **buffering_unobservable** — for every table state satisfying `Inv` (`inv_create`, `inv_run`:
    every state a history reaches from a created table) and every operation history (insert one
    row, insert a batch, `t?col`, `#t`, `.schema`, `.index`, re-insert of a key, `.rindex`,
    `t,c,,v`, `select *`), in any interleaving:
    every reply is the reply of the abstract table that has no buffer and applies every
    insert at once, and what the table holds at the end is what the abstract table holds. -/
theorem buffering_unobservable (ops : List Op) (t : Table) (h : Inv t) :
    (run t ops).2 = (specRun (abs t) ops).2 ∧ abs (run t ops).1 = (specRun (abs t) ops).1 := by
  induction ops generalizing t with
  | nil => exact ⟨rfl, rfl⟩
  | cons op ops ih =>
    have ⟨i1, i2⟩ := ih _ (inv_step op h)
    simp only [run, specRun, ← step_refines op h, absOut, i1, i2, and_self]

/-- its first half (the replies), from table creation: any rectangular set of initial columns -/
theorem buffering_unobservable_from_create (cols : List Col) (rows : List Row)
    (hr : rect rows cols.length = true) (ops : List Op) :
    (run (create cols rows) ops).2 = (specRun { cols, rows, idx := none } ops).2 := by
  simpa [abs, create, content_of_nil] using (buffering_unobservable ops _ (inv_create cols rows hr)).1

example :
    (run (create ["a", "b"] [[.num 4, .num 40], [.num 12, .num 120]])
      [.insert [.num 8, .num 80], .readCol "a", .index ["a"], .insert [.num 8, .num 84],
       .insert [.num 0, .num 0], .insert [.num 0, .num 4], .count, .selectAll, .rindex,
       .addCol "c" [.str [97], .str [], .str [98], .str [99]], .insertb [[.num 8, .num 1, .str []]], .selectAll]).2
    = [.table, .col (some [.num 4, .num 12, .num 8]), .names ["a"], .table, .table, .table, .n 4,
       .rows [[.num 0, .num 4], [.num 4, .num 40], [.num 8, .num 84], [.num 12, .num 120]], .n 1,
       .table, .table,
       .rows [[.num 0, .num 4, .str [97]], [.num 4, .num 40, .str []], [.num 8, .num 84, .str [98]],
              [.num 12, .num 120, .str [99]], [.num 8, .num 1, .str []]]] := by
  decide

theorem content_run_data (ops : List Op) (t : Table) (h : Inv t) (hd : ∀ op ∈ ops, op.isData = true) :
    content (run t ops).1 = (abs t).ins (inserted t.cols.length ops) := by
  have := congrArg Spec.rows (buffering_unobservable ops t h).2
  rwa [specRun_data _ _ hd] at this

/-- **unindexed_insertion_order** — an unindexed table, after any history of single inserts,
    batch inserts and reads in any interleaving, holds what it held before followed by the
    inserted rows in insertion order (and every read on the way returned the abstract table's
    answer, by `buffering_unobservable`). -/
theorem unindexed_insertion_order (t : Table) (h : Inv t) (hi : t.idx = none) (ops : List Op)
    (hd : ∀ op ∈ ops, op.isData = true) :
    content (run t ops).1 = content t ++ inserted t.cols.length ops := by
  simp [content_run_data ops t h hd, Spec.ins, abs, hi]

example :
    let t := create ["a"] [[.num 4]]
    let ops := [Op.insert [.num 8], .readCol "a", .insertb [[.num 4], [.num 0]], .count, .insert [.num 8]]
    content (run t ops).1 = [[.num 4], [.num 8], [.num 4], [.num 0], [.num 8]] := by decide

/-- **indexed_last_wins_sorted** — an indexed table, after any history of single inserts,
    batch inserts and reads in any interleaving (keys repeated at will, inside one batch,
    between two reads, or across reads), is strictly sorted by key and holds for every key
    the last row inserted with that key, or, if none was, the row it held before. -/
theorem indexed_last_wins_sorted (t : Table) (h : Inv t) (ks : List Col) (hi : t.idx = some ks)
    (ops : List Op) (hd : ∀ op ∈ ops, op.isData = true) :
    let kf := keyFn t.cols ks
    SSorted kf (content (run t ops).1) ∧
    ∀ k, findKey kf k (content (run t ops).1) =
      (findLast kf k (inserted t.cols.length ops)).or (findKey kf k (content t)) := by
  simp only [content_run_data ops t h hd, Spec.ins, abs, hi]
  exact ⟨ssorted_foldl_upsert _ _ _ (content_ssorted h hi),
    fun k => findKey_foldl_upsert _ k _ _⟩

/-- **indexed_one_row_per_key** — in particular no key has two rows -/
theorem indexed_one_row_per_key (t : Table) (h : Inv t) (ks : List Col) (hi : t.idx = some ks)
    (ops : List Op) (hd : ∀ op ∈ ops, op.isData = true) :
    ((content (run t ops).1).map (keyFn t.cols ks)).Nodup :=
  (indexed_last_wins_sorted t h ks hi ops hd).1.nodup

example :
    let t := (step (create ["a", "b"] [[.num 12, .num 1], [.num 4, .num 2]]) (.index ["a"])).1
    let ops := [Op.insert [.num 8, .num 3], .insert [.num 8, .num 4], .insert [.num 4, .num 5],
                .insert [.num 4, .num 6], .readCol "b", .insertb [[.num 0, .num 7], [.num 0, .num 8]]]
    t.idx = some ["a"] ∧
    content (run t ops).1 = [[.num 0, .num 8], [.num 4, .num 6], [.num 8, .num 4], [.num 12, .num 1]] := by
  decide

/-- **index_roundtrip_preserves_rows** — creating an index on columns whose values are unique
    (whatever is still buffered) is accepted, keeps exactly the rows the table held (as a
    permutation: none lost, none duplicated), now strictly sorted by key; dropping it again
    keeps the rows as they are. -/
theorem index_roundtrip_preserves_rows (t : Table) (hi : t.idx = none) (ks : List Col)
    (hne : ks ≠ []) (hnd : ks.Nodup) (hsub : ks ⊆ t.cols)
    (huniq : ((content t).map (keyFn t.cols ks)).Nodup) :
    let t1 := (step t (.index ks)).1
    let t2 := (step t1 .rindex).1
    (step t (.index ks)).2 = .names ks ∧ t1.idx = some ks ∧
    (content t1).Perm (content t) ∧ SSorted (keyFn t.cols ks) (content t1) ∧
    (step t1 .rindex).2 = .n 1 ∧ t2.idx = none ∧ content t2 = content t1 := by
  have h1 : step t (.index ks) =
      (⟨t.cols, sortRows (keyFn t.cols ks) (content t), [], some ks⟩, .names ks) := by
    simp [step, hi, hne, hnd, hsub, huniq, createIndex_of_nodup_keys, commit_eq]
  have h2 : step ⟨t.cols, sortRows (keyFn t.cols ks) (content t), [], some ks⟩ .rindex =
      (⟨t.cols, sortRows (keyFn t.cols ks) (content t), [], none⟩, .n 1) := rfl
  simp only [h1, h2, content_of_nil, true_and, and_true]
  exact ⟨sortRows_perm _ _, ssorted_sortRows huniq⟩

example :
    let t := (step (create ["a", "b"] [[.num 12, .str [98]], [.num 4, .str [97]]]) (.insert [.num 8, .str []])).1
    let t1 := (step t (.index ["a"])).1
    let t2 := (step t1 .rindex).1
    content t = [[.num 12, .str [98]], [.num 4, .str [97]], [.num 8, .str []]] ∧
    content t2 = [[.num 4, .str [97]], [.num 8, .str []], [.num 12, .str [98]]] := by decide

/-! ### the pinned tree (before branch fix-c19) does not have the property -/

/-- `.insert(t;row); t?"a"` : the column read ignores the buffered row, while `#t` counts it -/
theorem pinned_read_ignores_buffer :
    let t := (step (create ["a"] [[.num 4]]) (.insert [.num 8])).1
    (Pinned.readCol t "a").2 = .col (some [.num 4]) ∧ (Pinned.count t).2 = .n 2 ∧
    (step t (.readCol "a")).2 = .col (some [.num 4, .num 8]) := by decide

/-- two inserts of one new key into an indexed table before a read: two rows for the key -/
theorem pinned_same_new_key_twice :
    let t : Table := { cols := ["a", "b"], committed := [[.num 4, .num 1]], buffer := [], idx := some ["a"] }
    let t' := (run t [.insert [.num 8, .num 2], .insert [.num 8, .num 3]]).1
    (Pinned.commit t').committed = [[.num 4, .num 1], [.num 8, .num 2], [.num 8, .num 3]] ∧
    content t' = [[.num 4, .num 1], [.num 8, .num 3]] := by decide

end Klong.C19
