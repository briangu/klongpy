/-
  The decimal digits a model computes by fuel (`C11.showNatF`, `C20.natDigitsF`: the same equations)
  are core's `Nat.toDigits 10`; what the models' readers need of them is core's.
-/
namespace Klong

theorem ofNat_digit : ∀ d : Fin 10, Char.ofNat (48 + d.val) = d.val.digitChar := by decide

theorem digits_eq_toDigits {g : Nat → Nat → List Char}
    (hg : ∀ f n, g (f + 1) n =
      if n < 10 then [Char.ofNat (48 + n)] else g f (n / 10) ++ [Char.ofNat (48 + n % 10)])
    {f n : Nat} (h : n < f) : g f n = Nat.toDigits 10 n := by
  induction f generalizing n with
  | zero => cases h
  | succ f ih =>
    rw [hg, Nat.toDigits_eq_if (by decide)]
    split
    · next h10 => rw [ofNat_digit ⟨n, h10⟩]
    · rw [ih (by omega), ofNat_digit ⟨n % 10, Nat.mod_lt n (by decide)⟩]

/-! Stated with the bodies of the models' `isDigit` and `digitVal` written out: they apply by
`exact` (up to unfolding those); `rw` and `simp` with them find nothing to match. -/

theorem toDigits_isDigit (n : Nat) :
    (Nat.toDigits 10 n).all (fun c => 48 ≤ c.toNat && c.toNat ≤ 57) = true :=
  List.all_eq_true.mpr fun _ hc => Nat.isDigit_of_mem_toDigits (by decide) (by decide) hc

theorem toDigits_val (n : Nat) :
    (Nat.toDigits 10 n).foldl (fun a c => a * 10 + (c.toNat - 48)) 0 = n := by
  have h := Nat.ofDigitChars_ten_toDigits (n := n)
  simp only [Nat.ofDigitChars_eq_foldl, Nat.mul_comm 10] at h
  exact h

theorem toDigits_head (n : Nat) : ∃ c t, Nat.toDigits 10 n = c :: t ∧ (c = '0' → n = 0) := by
  induction n using Nat.strongRecOn with
  | _ n ih =>
    rw [Nat.toDigits_eq_if (by decide)]
    split
    · exact ⟨_, _, rfl, Nat.digitChar_eq_zero.mp⟩
    · obtain ⟨c, t, e, h0⟩ := ih (n / 10) (by omega)
      refine ⟨c, t ++ _, congrArg (· ++ _) e, fun hz => ?_⟩
      have := h0 hz
      omega

end Klong
