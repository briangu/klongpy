/-
  C15 — the timer runner of `Klong.Model.C15` ticks once per interval boundary until stopped.
  Every event is checked against the history before it at the moment it is logged (`EvOK`, `LogOK`);
  `Inv` is the state invariant that makes that check pass.  The property theorems are readings of
  `LogOK` on the log of a reachable state.
-/
import Klong.Model.C15
namespace Klong.C15

/-- `isCreated` / `created` read the log like the model's `isStop` / `stopped` -/
def isCreated (k : Nat) : Ev → Bool
  | .created j _ _ => j == k
  | _ => false

def created (k : Nat) (log : List Ev) : Bool := log.any (isCreated k)

@[simp] theorem stopped_nil (k : Nat) : stopped k [] = false := rfl
@[simp] theorem stopped_cons (k : Nat) (e : Ev) (l : List Ev) :
    stopped k (e :: l) = (isStop k e || stopped k l) := by simp [stopped]
@[simp] theorem created_nil (k : Nat) : created k [] = false := rfl
@[simp] theorem created_cons (k : Nat) (e : Ev) (l : List Ev) :
    created k (e :: l) = (isCreated k e || created k l) := by simp [created]

theorem stopped_append (k : Nat) (a b : List Ev) :
    stopped k (a ++ b) = (stopped k a || stopped k b) := by simp [stopped]

/-- timer `k` (start `st`, interval `I`) ticks at `t`, charged to boundary `n`, running version `v`,
    after history `rest` -/
structure TickOK (rest : List Ev) (k : Nat) (st : Int) (I : Nat) (t n : Int) (v : Nat) : Prop where
  live : stopped k rest = false
  pos : 1 ≤ n
  bnd : st + n * (I : Int) ≤ t
  prev : match lastTick k rest with
    | none => n = 1
    | some (T, n0, d0) =>
      n0 < n ∧ (0 < I → st + (n - 1) * (I : Int) ≤ T + d0 ∧ T + d0 < st + n * (I : Int)) ∧
      (I = 0 → n = n0 + 1)
  after : ∀ T d0, lastAny rest = some (T, d0) → T + d0 ≤ t
  ver : v = lastVer k rest

def EvOK (rest : List Ev) : Ev → Prop
  | .tick k st I t n _ v => TickOK rest k st I t n v
  | .timerc k r =>
      (r = 1 ∧ created k rest = true ∧ stopped k rest = false) ∨
      (r = 0 ∧ ¬ (created k rest = true ∧ stopped k rest = false))
  | _ => True

def LogOK : List Ev → Prop
  | [] => True
  | e :: rest => EvOK rest e ∧ LogOK rest

theorem LogOK_split {a b : List Ev} {x : Ev} (h : LogOK (a ++ x :: b)) : EvOK b x ∧ LogOK b := by
  induction a with
  | nil => exact h
  | cons e a ih => exact ih h.2

/-- a pending handle of a timer (interval `I`, start `st`) whose latest tick is `lt` -/
def HOK (I : Nat) (st : Int) (lt : Option (Int × Int × Nat)) (h : LH) : Prop :=
  (0 < I → h.soon = false ∧ st + h.n * (I : Int) ≤ h.when) ∧
  1 ≤ h.n ∧
  (match lt with
   | none => h.n = 1
   | some (T, n0, d0) =>
      n0 < h.n ∧
      (0 < I → st + (h.n - 1) * (I : Int) ≤ T + d0 ∧ T + d0 < st + h.n * (I : Int)) ∧
      (I = 0 → h.n = n0 + 1))

structure Inv (s : St) : Prop where
  /-- a pending handle is its timer's delegate, so `cancel` leaves no handle of the timer behind -/
  hdel : ∀ h ∈ s.handles, (s.tm h.timer).delegate = some h.id
  /-- what `.timerc` tests (the delegate) is what the log says (`timerc_result`) -/
  dstop : ∀ k, k < s.ntimers → ((s.tm k).delegate = none ↔ stopped k s.log = true)
  /-- the slot `create` will overwrite is blank -/
  fresh : ∀ k, s.ntimers ≤ k →
    (s.tm k).delegate = none ∧ stopped k s.log = false ∧ lastTick k s.log = none
  crt : ∀ k, created k s.log = true ↔ k < s.ntimers
  /-- every pending handle is charged to the right boundary: becomes `TickOK` when it runs -/
  htime : ∀ h ∈ s.handles,
    HOK (s.tm h.timer).interval (s.tm h.timer).start (lastTick h.timer s.log) h
  /-- for interval 0, where the boundary a tick must not precede is `start` itself -/
  startle : ∀ k, k < s.ntimers → (s.tm k).start ≤ s.now
  /-- the latest invocation has finished (`no_overlap`) -/
  nowge : ∀ T d, lastAny s.log = some (T, d) → T + d ≤ s.now
  ver : ∀ k, (s.tm k).ver = lastVer k s.log
  logok : LogOK s.log

@[simp] theorem updTm_apply (tm : Nat → Timer) (k j : Nat) (t : Timer) :
    updTm tm k t j = if j = k then t else tm j := rfl

section
variable {s : St} {k : Nat}

/-- `cancel` without the case distinction: with no delegate nothing is filtered out and `tm` does
    not change -/
theorem cancel_fst (s : St) (k : Nat) : (cancel s k).1 =
    { s with handles := s.handles.filter (fun h => !(some h.id == (s.tm k).delegate))
           , tm := updTm s.tm k { s.tm k with delegate := none } } := by
  unfold cancel
  split
  · rename_i hd
    have htm : updTm s.tm k { s.tm k with delegate := none } = s.tm := by
      funext j
      by_cases hjk : j = k
      · subst hjk
        simp only [updTm_apply, if_true]
        rw [← hd]
      · simp [hjk]
    have hf : s.handles.filter (fun _ => true) = s.handles := List.filter_eq_self.mpr fun _ _ => rfl
    simp [hd, htm, hf]
  · rename_i d hd
    simp [hd, bne]

theorem mem_cancel_handles {x : LH} :
    x ∈ (cancel s k).1.handles ↔ x ∈ s.handles ∧ some x.id ≠ (s.tm k).delegate := by
  simp [cancel_fst]

@[simp] theorem cancel_log (s : St) (k : Nat) : (cancel s k).1.log = s.log := by
  rw [cancel_fst]

@[simp] theorem cancel_ntimers (s : St) (k : Nat) : (cancel s k).1.ntimers = s.ntimers := by
  rw [cancel_fst]

/-- how a timer dies in one step: `.timerc` that finds a delegate, a false return, a raise and the
    arity error all log their event `e` and `cancel` -/
def stop (s : St) (k : Nat) (e : Ev) : St := (cancel { s with log := e :: s.log } k).1

@[simp] theorem stop_log (s : St) (k : Nat) (e : Ev) : (stop s k e).log = e :: s.log := by
  simp [stop]

theorem timerc_none (hd : (s.tm k).delegate = none) :
    timerc s k = { s with log := .timerc k 0 :: s.log } := by
  simp [timerc, cancel, hd]

theorem timerc_some {d : Nat} (hd : (s.tm k).delegate = some d) :
    timerc s k = stop s k (.timerc k 1) := by
  simp [timerc, stop, cancel, hd]

theorem inv_init : Inv init := by
  refine ⟨?_, ?_, ?_, ?_, ?_, ?_, ?_, ?_, ?_⟩ <;> simp [init, lastTick, lastAny, lastVer, LogOK]

theorem Inv.live_of_delegate (h : Inv s) (hd : (s.tm k).delegate ≠ none) :
    k < s.ntimers ∧ stopped k s.log = false := by
  have hk : k < s.ntimers := Nat.lt_of_not_le fun hle => hd (h.fresh k hle).1
  exact ⟨hk, Bool.eq_false_iff.mpr fun hs => hd ((h.dstop k hk).mpr hs)⟩

theorem Inv.timer_lt (h : Inv s) {x : LH} (hx : x ∈ s.handles) : x.timer < s.ntimers :=
  (h.live_of_delegate (h.hdel x hx ▸ Option.some_ne_none x.id)).1

theorem Inv.shrink (h : Inv s) {hs : List LH} (hsub : ∀ x ∈ hs, x ∈ s.handles) {now' : Int}
    (hnow : s.now ≤ now') : Inv { s with handles := hs, now := now' } :=
  ⟨fun x hx => h.hdel x (hsub x hx), h.dstop, h.fresh, h.crt,
   fun x hx => h.htime x (hsub x hx), fun k hk => Int.le_trans (h.startle k hk) hnow,
   fun T d hl => Int.le_trans (h.nowge T d hl) hnow, h.ver, h.logok⟩

/-- the second alternative of `hlt` admits a tick, of a timer without pending handle -/
theorem Inv.quiet (h : Inv s) {e : Ev} (hok : EvOK s.log e)
    (hst : ∀ j, isStop j e = false) (hcr : ∀ j, isCreated j e = false)
    (hlt : ∀ j, lastTick j (e :: s.log) = lastTick j s.log ∨
      j < s.ntimers ∧ ∀ x ∈ s.handles, x.timer ≠ j)
    (hla : ∀ T d, lastAny (e :: s.log) = some (T, d) → T + d ≤ s.now) {tm' : Nat → Timer}
    (htm : ∀ j, (tm' j).delegate = (s.tm j).delegate ∧ (tm' j).start = (s.tm j).start ∧
      (tm' j).interval = (s.tm j).interval)
    (hver : ∀ j, (tm' j).ver = lastVer j (e :: s.log)) :
    Inv { s with tm := tm', log := e :: s.log } := by
  refine ⟨?hdel, ?dstop, ?fresh, ?crt, ?htime, ?startle, hla, hver, ⟨hok, h.logok⟩⟩
  case hdel =>
    intro x hx
    simpa [htm] using h.hdel x hx
  case dstop =>
    intro j hj
    simpa [htm, hst] using h.dstop j hj
  case fresh =>
    intro j hj
    rcases hlt j with hl | ⟨hlt, -⟩
    · simpa [htm, hst, hl] using h.fresh j hj
    · exact absurd hlt (Nat.not_lt.mpr hj)
  case crt =>
    intro j
    simpa [hcr] using h.crt j
  case htime =>
    intro x hx
    rcases hlt x.timer with hl | ⟨-, hno⟩
    · simpa [htm, hl] using h.htime x hx
    · exact absurd rfl (hno x hx)
  case startle =>
    intro j hj
    simpa [htm] using h.startle j hj

theorem isStop_obs {e : Ev} (he : isStop k e = true) (l : List Ev) :
    (∀ j, stopped j (e :: l) = (k == j || stopped j l)) ∧
    (∀ j, created j (e :: l) = created j l) ∧ (∀ j, lastTick j (e :: l) = lastTick j l) ∧
    lastAny (e :: l) = lastAny l ∧ (∀ j, lastVer j (e :: l) = lastVer j l) := by
  cases e <;> simp_all [isStop, isCreated, lastTick, lastAny, lastVer]

/-- logging and cancelling are one step: after either alone `dstop` fails for `k` -/
theorem inv_stop (h : Inv s) (hk : k < s.ntimers) {e : Ev} (he : isStop k e = true)
    (hok : EvOK s.log e) : Inv (stop s k e) := by
  obtain ⟨hst, hcr, hlt, hla, hlv⟩ := isStop_obs he s.log
  unfold stop
  rw [cancel_fst]
  refine ⟨?hdel, ?dstop, ?fresh, ?crt, ?htime, ?startle, ?nowge, ?ver, ⟨hok, h.logok⟩⟩
  case hdel =>
    intro x hx
    obtain ⟨hx, hne⟩ := List.mem_filter.mp hx
    by_cases hxk : x.timer = k
    · simp [← hxk, h.hdel x hx] at hne
    · simpa [hxk] using h.hdel x hx
  case dstop =>
    intro j hj
    by_cases hjk : j = k
    · simp [hjk, hst]
    · simpa [hjk, Ne.symm hjk, hst] using h.dstop j hj
  case fresh =>
    intro j hj
    have hjk := Nat.ne_of_gt (Nat.lt_of_lt_of_le hk hj)
    simpa [hjk, Ne.symm hjk, hst, hlt] using h.fresh j hj
  case crt =>
    intro j
    simpa [hcr] using h.crt j
  case htime =>
    intro x hx
    have := h.htime x (List.mem_filter.mp hx).1
    by_cases hxk : x.timer = k <;> simpa [hxk, hlt] using this
  case startle =>
    intro j hj
    have := h.startle j hj
    by_cases hjk : j = k <;> simpa [hjk] using this
  case nowge =>
    intro T d
    simpa [hla] using h.nowge T d
  case ver =>
    intro j
    have := h.ver j
    by_cases hjk : j = k <;> simpa [hjk, hlv] using this

theorem inv_timerc (k : Nat) (h : Inv s) : Inv (timerc s k) := by
  cases hd : (s.tm k).delegate with
  | none =>
    rw [timerc_none hd]
    refine h.quiet (e := .timerc k 0) (hok := .inr ⟨rfl, fun ⟨hc, hs⟩ => ?_⟩)
      (hst := fun _ => by simp [isStop]) (hcr := fun _ => rfl) (hlt := fun _ => .inl rfl)
      (hla := h.nowge) (htm := fun _ => ⟨rfl, rfl, rfl⟩) (hver := h.ver)
    rw [(h.dstop k ((h.crt k).mp hc)).mp hd] at hs
    cases hs
  | some d =>
    obtain ⟨hk, hns⟩ := h.live_of_delegate (hd ▸ Option.some_ne_none d)
    rw [timerc_some hd]
    exact inv_stop h hk (by simp [isStop]) (.inl ⟨rfl, (h.crt k).mpr hk, hns⟩)

theorem inv_redefine (k v a : Nat) (h : Inv s) : Inv (redefine s k v a) := by
  refine h.quiet (e := .redefined k v) (hok := trivial) (hst := fun _ => rfl) (hcr := fun _ => rfl)
    (hlt := fun _ => .inl rfl) (hla := h.nowge) (htm := fun j => ?_) (hver := fun j => ?_)
  · by_cases hjk : j = k <;> simp [hjk]
  · by_cases hjk : j = k
    · simp [hjk, lastVer]
    · simpa [hjk, Ne.symm hjk, lastVer] using h.ver j

@[simp] theorem nextHandle_timer (t : Timer) (id k : Nat) (f : Int) (dr : Nat) (p : Int) :
    (nextHandle t id k f dr p).timer = k := by
  unfold nextHandle
  split <;> rfl

@[simp] theorem nextHandle_id (t : Timer) (id k : Nat) (f : Int) (dr : Nat) (p : Int) :
    (nextHandle t id k f dr p).id = id := by
  unfold nextHandle
  split <;> rfl

theorem nextHandle_first (t : Timer) (id k : Nat) :
    HOK t.interval t.start none (nextHandle t id k t.start 0 0) := by
  unfold nextHandle HOK
  split
  · rename_i h0
    simp [h0]
  · simp

theorem nextHandle_congr {t t' : Timer} (hi : t'.interval = t.interval) (hs : t'.start = t.start)
    (id k : Nat) (f : Int) (dr : Nat) (p : Int) :
    nextHandle t' id k f dr p = nextHandle t id k f dr p := by
  simp only [nextHandle, hi, hs]

/-- `x + (I - x % I)` is the first multiple of `I` strictly after `x`, the `(x / I + 1)`-th -/
theorem next_multiple {x I : Int} (hI : 0 < I) :
    x / I * I ≤ x ∧ x < x / I * I + I ∧ x + (I - x % I) = x / I * I + I := by
  have h1 := Int.ediv_mul_le x (Int.ne_of_gt hI)
  have h2 := Int.lt_ediv_add_one_mul_self x hI
  have h3 := Int.emod_add_mul_ediv x I
  rw [Int.mul_comm] at h3
  rw [Int.add_mul, Int.one_mul] at h2
  omega

theorem nextHandle_after (t : Timer) (id k : Nat) (T n0 : Int) (d0 dr : Nat)
    (hn0 : 1 ≤ n0) (hb : t.start + n0 * (t.interval : Int) ≤ T) :
    HOK t.interval t.start (some (T, n0, d0)) (nextHandle t id k (T + d0) dr n0) := by
  unfold nextHandle HOK
  split
  · rename_i h0
    simp [h0]
    omega
  · rename_i h0
    have hI : (0 : Int) < (t.interval : Int) := by omega
    have hq := Int.le_ediv_of_mul_le hI (show n0 * (t.interval : Int) ≤ T + d0 - t.start by omega)
    obtain ⟨h1, h2, h3⟩ := next_multiple (x := T + d0 - t.start) hI
    simp only [Nat.pos_of_ne_zero h0, forall_const, true_and, h0, false_implies, and_true,
      Int.add_sub_cancel, Int.add_mul, Int.one_mul]
    refine ⟨?_, ?_, ?_, ?_, ?_⟩ <;> omega

/-- `create` is not "log `created`, then `schedule`" for the invariant: in between, a live timer has
    no delegate, and `.timerc` there would report 0 (against `dstop`, on which `inv_timerc` rests) -/
theorem inv_create (I : Nat) (h : Inv s) : Inv (create s I) := by
  have hf := h.fresh s.ntimers (Nat.le_refl _)
  have hne : ∀ x ∈ s.handles, x.timer ≠ s.ntimers := fun x hx => Nat.ne_of_lt (h.timer_lt hx)
  unfold create schedule
  refine ⟨?hdel, ?dstop, ?fresh, ?crt, ?htime, ?startle, ?nowge, ?ver, ⟨trivial, h.logok⟩⟩
  case hdel =>
    refine List.forall_mem_append.mpr ⟨fun x hx => ?_, List.forall_mem_singleton.mpr (by simp)⟩
    simpa [hne x hx] using h.hdel x hx
  case dstop =>
    intro j hj
    rcases Nat.lt_succ_iff_lt_or_eq.mp hj with hj | rfl
    · simpa [Nat.ne_of_lt hj, isStop] using h.dstop j hj
    · simp [isStop, hf.2.1]
  case fresh =>
    intro j hj
    simpa [Nat.ne_of_gt hj, isStop, lastTick] using h.fresh j (Nat.le_of_succ_le hj)
  case crt =>
    intro j
    by_cases hjk : s.ntimers = j
    · subst hjk
      simp [isCreated]
    · simp [isCreated, hjk, h.crt j]
      omega
  case htime =>
    refine List.forall_mem_append.mpr ⟨fun x hx => ?_, List.forall_mem_singleton.mpr ?_⟩
    · simpa [hne x hx, lastTick] using h.htime x hx
    · have := nextHandle_first { interval := I, start := s.now, delegate := none, ver := 0 }
        s.nextId s.ntimers
      simpa [lastTick, hf.2.2] using this
  case startle =>
    intro j hj
    rcases Nat.lt_succ_iff_lt_or_eq.mp hj with hj | rfl
    · simpa [Nat.ne_of_lt hj] using h.startle j hj
    · simp
  case nowge =>
    intro T d
    simpa [lastAny] using h.nowge T d
  case ver =>
    intro j
    by_cases hjk : j = s.ntimers
    · subst hjk
      simp [lastVer]
    · simpa [hjk, Ne.symm hjk, lastVer] using h.ver j

end

section
variable {c : Cfg} {s s' : St} {k : Nat} {n : Int}

/-- inside a dispatch of timer `k`: its handle is popped and its tick, charged to boundary `n`,
    logged.  `next`: whatever id and drift the handle of the next run gets, it is charged correctly. -/
structure Mid (s : St) (k : Nat) (n : Int) : Prop where
  inv : Inv s
  noh : ∀ x ∈ s.handles, x.timer ≠ k
  kc : k < s.ntimers
  next : ∀ id drift, HOK (s.tm k).interval (s.tm k).start (lastTick k s.log)
    (nextHandle (s.tm k) id k s.now drift n)

/-- the loop may run the pending handle `h` with latency `adv` -/
def Due (c : Cfg) (s : St) (h : LH) (adv : Nat) : Prop :=
  ((h.soon || decide (h.when < s.now + c.res)) && decide (c.minAdv ≤ adv)) = true

/-- `dispatch` up to the callback's side effect (its `s1`) -/
def ticked (s : St) (h : LH) (adv dur : Nat) : St :=
  { s with handles := s.handles.filter (fun x => x.id != h.id)
         , now := s.now + adv + dur
         , log := .tick h.timer (s.tm h.timer).start (s.tm h.timer).interval (s.now + adv) h.n dur
                    (s.tm h.timer).ver :: s.log }

/-- ... and after it (`s2` of `dispatch`) -/
def ran (s : St) (h : LH) (adv dur : Nat) (act : Act) : St := doAct (ticked s h adv dur) h.timer act

theorem mid_pop (hc : c.res ≤ c.minAdv) (hi : Inv s) {h : LH} (hm : h ∈ s.handles)
    {adv dur : Nat} (hdue : Due c s h adv) : Mid (ticked s h adv dur) h.timer h.n := by
  have hd := hi.hdel h hm
  have ht := hi.htime h hm
  obtain ⟨hk, hns⟩ := hi.live_of_delegate (hd ▸ Option.some_ne_none h.id)
  have hnoh : ∀ x ∈ s.handles.filter (fun x => x.id != h.id), x.timer ≠ h.timer := by
    intro x hx hxt
    obtain ⟨hx, hne⟩ := List.mem_filter.mp hx
    have := hi.hdel x hx
    rw [hxt, hd] at this
    simp [Option.some.inj this] at hne
  -- the clock is read `adv ≥ minAdv ≥ res` after a dispatch that was at most `res` early
  have hbnd : (s.tm h.timer).start + h.n * ((s.tm h.timer).interval : Int) ≤ s.now + adv := by
    simp only [Due, Bool.and_eq_true, Bool.or_eq_true, decide_eq_true_eq] at hdue
    rcases Nat.eq_zero_or_pos (s.tm h.timer).interval with h0 | hI
    · have hst := hi.startle h.timer hk
      simp [h0]
      omega
    · have := ht.1 hI
      rcases hdue.1 with h1 | h1
      · simp [this.1] at h1
      · omega
  have hpop := hi.shrink (hs := s.handles.filter fun x => x.id != h.id)
    (fun x hx => (List.mem_filter.mp hx).1) (now' := s.now + adv + dur) (by omega)
  have hinv : Inv (ticked s h adv dur) := by
    refine hpop.quiet (e := .tick h.timer _ _ (s.now + adv) h.n dur _)
      -- `TickOK.prev` is the third clause of `HOK`, word for word
      (hok := { live := hns, pos := ht.2.1, bnd := hbnd, prev := ht.2.2, ver := hi.ver _
                after := fun T d0 hl => Int.le_trans (hi.nowge T d0 hl) (by omega) })
      (hst := fun _ => rfl) (hcr := fun _ => rfl) (hlt := fun j => ?_) (hla := ?_)
      (htm := fun _ => ⟨rfl, rfl, rfl⟩) (hver := hi.ver)
    · -- the tick is the latest tick of `h.timer` only, which has no pending handle left
      by_cases hjk : h.timer = j
      · exact .inr ⟨hjk ▸ hk, hjk ▸ hnoh⟩
      · exact .inl (by simp [lastTick, hjk])
    · rintro _ _ ⟨⟩
      exact Int.le_refl _
  refine ⟨hinv, hnoh, hk, fun id drift => ?_⟩
  · have := nextHandle_after (s.tm h.timer) id h.timer (s.now + adv) h.n dur drift ht.2.1 hbnd
    simpa [ticked, lastTick] using this

theorem timerc_facts (s : St) (j k : Nat) :
    (timerc s j).now = s.now ∧ (timerc s j).ntimers = s.ntimers ∧
    lastTick k (timerc s j).log = lastTick k s.log ∧
    ((timerc s j).tm k).start = (s.tm k).start ∧
    ((timerc s j).tm k).interval = (s.tm k).interval := by
  by_cases hkj : k = j <;> simp [timerc, cancel_fst, lastTick, hkj]

theorem mid_timerc (j : Nat) (m : Mid s k n) : Mid (timerc s j) k n := by
  obtain ⟨hnow, hnt, hlt, hst, hiv⟩ := timerc_facts s j k
  refine ⟨inv_timerc j m.inv, fun x hx => m.noh x (mem_cancel_handles.mp hx).1, hnt ▸ m.kc,
    fun id drift => ?_⟩
  rw [nextHandle_congr hiv hst, hiv, hst, hnow, hlt]
  exact m.next id drift

theorem mid_redefine (j v a : Nat) (m : Mid s k n) : Mid (redefine s j v a) k n := by
  refine ⟨inv_redefine j v a m.inv, m.noh, m.kc, fun id drift => ?_⟩
  have ht : ((redefine s j v a).tm k).interval = (s.tm k).interval ∧
      ((redefine s j v a).tm k).start = (s.tm k).start := by
    by_cases hkj : k = j <;> simp [redefine, hkj]
  rw [nextHandle_congr ht.1 ht.2, ht.1, ht.2]
  exact m.next id drift

theorem mid_doAct (a : Act) (m : Mid s k n) : Mid (doAct s k a) k n := by
  cases a with
  | none | raise => exact m
  | cancelSelf => exact mid_timerc k m
  | cancelOther j => exact mid_timerc j m
  | redefine v a => exact mid_redefine k v a m

theorem mid_ret_true (m : Mid s k n) :
    Mid { s with log := .ret k true :: s.log } k n :=
  ⟨m.inv.quiet (e := .ret k true) (hok := trivial) (hst := fun _ => by simp [isStop])
      (hcr := fun _ => rfl) (hlt := fun _ => .inl rfl) (hla := m.inv.nowge)
      (htm := fun _ => ⟨rfl, rfl, rfl⟩) (hver := m.inv.ver),
    m.noh, m.kc, m.next⟩

theorem inv_schedule (drift : Nat) (m : Mid s k n)
    (hd : (s.tm k).delegate ≠ none) : Inv (schedule s k drift n) := by
  have h := m.inv
  have hns := (h.live_of_delegate hd).2
  unfold schedule
  refine ⟨?hdel, ?dstop, ?fresh, h.crt, ?htime, ?startle, ?nowge, ?ver, h.logok⟩
  case hdel =>
    refine List.forall_mem_append.mpr ⟨fun x hx => ?_, List.forall_mem_singleton.mpr (by simp)⟩
    simpa [m.noh x hx] using h.hdel x hx
  case dstop =>
    intro j hj
    by_cases hjk : j = k
    · subst hjk
      simp [hns]
    · simpa [hjk] using h.dstop j hj
  case fresh =>
    intro j hj
    simpa [Nat.ne_of_gt (Nat.lt_of_lt_of_le m.kc hj)] using h.fresh j hj
  case htime =>
    refine List.forall_mem_append.mpr ⟨fun x hx => ?_, List.forall_mem_singleton.mpr ?_⟩
    · simpa [m.noh x hx] using h.htime x hx
    · simpa using m.next s.nextId drift
  case startle =>
    intro j hj
    have := h.startle j hj
    by_cases hjk : j = k
    · subst hjk
      simp only [updTm_apply, if_true]
      omega
    · simp only [updTm_apply, hjk, if_false]
      omega
  case nowge =>
    intro T' d hl
    have := h.nowge T' d hl
    simp only
    omega
  case ver =>
    intro j
    have := h.ver j
    by_cases hjk : j = k <;> simpa [hjk] using this

/-- the outcomes of `dispatch` on the pending handle `h` when `fix1` and `fix2` hold (`arity`: the
    binding takes parameters, no tick).  Only the direction `dispatch_fires` (every step is one of
    these) is proved and used: `arity` leaves out that the handle is due, which no invariant
    needs. -/
inductive Fires (c : Cfg) (s : St) (h : LH) (adv dur : Nat) (act : Act) (drift : Nat) :
    Bool → St → Prop
  | arity {ret} : (s.tm h.timer).arity ≠ 0 →
      Fires c s h adv dur act drift ret
        (stop { s with handles := s.handles.filter (fun x => x.id != h.id), now := s.now + adv }
          h.timer (.raised h.timer))
  | raise {ret} : Due c s h adv → act = .raise →
      Fires c s h adv dur act drift ret (stop (ran s h adv dur act) h.timer (.raised h.timer))
  | retFalse : Due c s h adv → act ≠ .raise →
      Fires c s h adv dur act drift false (stop (ran s h adv dur act) h.timer (.ret h.timer false))
  | cancelled : Due c s h adv → act ≠ .raise →
      ((ran s h adv dur act).tm h.timer).delegate = none →
      Fires c s h adv dur act drift true
        { ran s h adv dur act with log := .ret h.timer true :: (ran s h adv dur act).log }
  | again : Due c s h adv → act ≠ .raise → ((ran s h adv dur act).tm h.timer).delegate ≠ none →
      Fires c s h adv dur act drift true
        (schedule { ran s h adv dur act with log := .ret h.timer true :: (ran s h adv dur act).log }
          h.timer drift h.n)

theorem dispatch_fires (hc : c.good) {hid adv dur : Nat} {ret : Bool}
    {act : Act} {drift : Nat} (hs : dispatch c s hid adv dur ret act drift = some s') :
    ∃ h ∈ s.handles, h.id = hid ∧ Fires c s h adv dur act drift ret s' := by
  obtain ⟨hf1, hf2, -⟩ := hc
  unfold dispatch at hs
  -- the arms of `dispatch` in the order they are written: no handle with this id; the binding
  -- takes parameters (the call raises if the handle is due, else no step); the handle is due and
  -- the body raises, or it returns and the timer has no delegate left / `ret` is true / `ret` is
  -- false; not due
  split at hs
  · cases hs
  · rename_i h hfind
    have hm := List.mem_of_find?_eq_some hfind
    obtain rfl : h.id = hid := by simpa using List.find?_some hfind
    refine ⟨h, hm, rfl, ?_⟩
    simp only [hf1, hf2, if_true, Bool.true_and, Option.isNone_iff_eq_none] at hs
    split at hs
    · rename_i har
      split at hs
      · cases hs
        exact .arity har
      · cases hs
    · split at hs
      · rename_i hdue
        split at hs
        · rename_i hact
          subst hact
          cases hs
          exact .raise hdue rfl
        · rename_i hact
          split at hs
          · rename_i hnone
            cases hs
            cases ret
            · -- a false return of a timer cancelled meanwhile: `cancel` finds no delegate
              have := Fires.retFalse (drift := drift) (dur := dur) hdue hact
              simpa [stop, cancel, ran, ticked, hnone] using this
            · exact .cancelled hdue hact hnone
          · rename_i hsome
            split at hs
            · rename_i hret
              cases hs
              subst hret
              exact .again hdue hact hsome
            · rename_i hret
              cases hs
              obtain rfl : ret = false := by simpa using hret
              exact .retFalse hdue hact
      · cases hs

theorem inv_fires (hc : c.res ≤ c.minAdv) (hi : Inv s) {h : LH} (hm : h ∈ s.handles)
    {adv dur : Nat} {ret : Bool} {act : Act} {drift : Nat}
    (hf : Fires c s h adv dur act drift ret s') : Inv s' := by
  have m : Due c s h adv → Mid (ran s h adv dur act) h.timer h.n :=
    fun hdue => mid_doAct act (mid_pop hc hi hm hdue)
  cases hf with
  | arity =>
    exact inv_stop (hi.shrink (fun x hx => (List.mem_filter.mp hx).1) (by omega)) (hi.timer_lt hm)
      (by simp [isStop]) trivial
  | raise hdue | retFalse hdue => exact inv_stop (m hdue).inv (m hdue).kc (by simp [isStop]) trivial
  | cancelled hdue _ _ => exact (mid_ret_true (m hdue)).inv
  | again hdue _ hsome => exact inv_schedule drift (mid_ret_true (m hdue)) hsome

end

section
variable {c : Cfg} {s s' : St} {k : Nat} {n : Int} {ex : Option Nat}

/-- liveness side: a delegate always points to a pending handle (`dpend`).
    `ex = some k`: inside a dispatch of timer `k`, whose handle is popped but still its delegate.
    `dlt`, `uniq` keep `dpend` true when a handle is filtered out by its id. -/
structure Inv2 (s : St) (ex : Option Nat) : Prop where
  dlt : ∀ k d, (s.tm k).delegate = some d → d < s.nextId
  uniq : ∀ j k d, (s.tm j).delegate = some d → (s.tm k).delegate = some d → j = k
  dpend : ∀ k d, ex ≠ some k → (s.tm k).delegate = some d →
    ∃ h ∈ s.handles, h.id = d ∧ h.timer = k

theorem inv2_init : Inv2 init none := by
  refine ⟨?_, ?_, ?_⟩ <;> simp [init]

theorem Inv2.congr (h : Inv2 s ex) (h1 : s'.handles = s.handles)
    (h2 : s'.nextId = s.nextId) (h3 : ∀ k, (s'.tm k).delegate = (s.tm k).delegate) : Inv2 s' ex := by
  refine ⟨?dlt, ?uniq, ?dpend⟩
  case dlt =>
    simpa only [h2, h3] using h.dlt
  case uniq =>
    simpa only [h3] using h.uniq
  case dpend =>
    simpa only [h1, h3] using h.dpend

theorem inv2_log {l : List Ev} (h : Inv2 s ex) : Inv2 { s with log := l } ex :=
  h.congr rfl rfl fun _ => rfl

theorem Inv2.weaken (h : Inv2 s none) (ex : Option Nat) : Inv2 s ex :=
  ⟨h.dlt, h.uniq, fun i d _ => h.dpend i d nofun⟩

theorem inv2_cancel (j : Nat) (h : Inv2 s ex) : Inv2 (cancel s j).1 ex := by
  have hd : ∀ {i d}, ((cancel s j).1.tm i).delegate = some d →
      i ≠ j ∧ (s.tm i).delegate = some d := by
    intro i d hdi
    simp only [cancel_fst, updTm_apply] at hdi
    split at hdi
    · cases hdi
    · exact ⟨‹_›, hdi⟩
  refine ⟨?dlt, ?uniq, ?dpend⟩
  case dlt =>
    intro i d hdi
    simpa [cancel_fst] using h.dlt i d (hd hdi).2
  case uniq =>
    intro i i' d h1 h2
    exact h.uniq i i' d (hd h1).2 (hd h2).2
  case dpend =>
    intro i d hi hdi
    obtain ⟨hij, hdi⟩ := hd hdi
    obtain ⟨x, hx, hxid, hxt⟩ := h.dpend i d hi hdi
    -- `x` survives the filter: `j`'s delegate is not `i`'s
    exact ⟨x, mem_cancel_handles.mpr ⟨hx, fun hj => hij (h.uniq i j d hdi (hxid ▸ hj.symm))⟩,
      hxid, hxt⟩

theorem inv2_timerc (j : Nat) (h : Inv2 s ex) : Inv2 (timerc s j) ex :=
  inv2_log (inv2_cancel j h)

theorem inv2_redefine (j v a : Nat) (h : Inv2 s ex) : Inv2 (redefine s j v a) ex :=
  h.congr rfl rfl fun k => by by_cases hk : k = j <;> simp [redefine, hk]

theorem inv2_doAct (k : Nat) (a : Act) (h : Inv2 s ex) : Inv2 (doAct s k a) ex := by
  cases a with
  | none | raise => exact h
  | cancelSelf => exact inv2_timerc k h
  | cancelOther j => exact inv2_timerc j h
  | redefine v a => exact inv2_redefine k v a h

theorem inv2_schedule {drift : Nat} (h : Inv2 s (some k)) :
    Inv2 (schedule s k drift n) none := by
  have hd : ∀ {i d}, ((schedule s k drift n).tm i).delegate = some d →
      (i = k ∧ d = s.nextId) ∨ (i ≠ k ∧ (s.tm i).delegate = some d) := by
    intro i d hdi
    by_cases hik : i = k
    · exact .inl ⟨hik, by simpa [schedule, hik] using hdi.symm⟩
    · exact .inr ⟨hik, by simpa [schedule, hik] using hdi⟩
  refine ⟨?dlt, ?uniq, ?dpend⟩
  case dlt =>
    intro i d hdi
    rcases hd hdi with ⟨-, rfl⟩ | ⟨-, hdi⟩
    · exact Nat.lt_succ_self _
    · exact Nat.lt_succ_of_lt (h.dlt i d hdi)
  case uniq =>
    intro i i' d h1 h2
    rcases hd h1 with ⟨rfl, rfl⟩ | ⟨hik, h1'⟩ <;> rcases hd h2 with ⟨rfl, hd2⟩ | ⟨hik', h2'⟩
    · rfl
    · exact absurd (h.dlt i' _ h2') (Nat.lt_irrefl _)
    · subst hd2
      exact absurd (h.dlt i _ h1') (Nat.lt_irrefl _)
    · exact h.uniq i i' d h1' h2'
  case dpend =>
    intro i d _ hdi
    rcases hd hdi with ⟨rfl, rfl⟩ | ⟨hik, hdi⟩
    · exact ⟨_, List.mem_append_right _ (List.mem_singleton_self _), by simp, by simp⟩
    · obtain ⟨x, hx, hxid, hxt⟩ := h.dpend i d (fun e => hik (Option.some.inj e).symm) hdi
      exact ⟨x, List.mem_append_left _ hx, hxid, hxt⟩

/-- the timer `create` overwrites had no delegate (`Inv.fresh`) -/
theorem inv2_create (hi : Inv s) (I : Nat) (h : Inv2 s none) : Inv2 (create s I) none := by
  refine inv2_schedule ((h.weaken _).congr rfl rfl fun k => ?_)
  by_cases hk : k = s.ntimers
  · simp [hk, (hi.fresh _ (Nat.le_refl _)).1]
  · simp [hk]

theorem inv2_pop (hi : Inv s) (h2 : Inv2 s none) {h : LH} (hm : h ∈ s.handles)
    {now' : Int} {log' : List Ev} :
    Inv2 { s with handles := s.handles.filter (fun x => x.id != h.id), now := now', log := log' }
      (some h.timer) := by
  refine ⟨h2.dlt, h2.uniq, fun i d hik hdi => ?_⟩
  obtain ⟨x, hx, hxid, hxt⟩ := h2.dpend i d nofun hdi
  refine ⟨x, List.mem_filter.mpr ⟨hx, ?_⟩, hxid, hxt⟩
  simp only [bne_iff_ne, ne_eq]
  intro hxd
  exact hik (congrArg some (h2.uniq i h.timer d hdi (by rw [hi.hdel h hm, ← hxd, hxid])).symm)

theorem Inv2.close (h : Inv2 s (some k)) (hd : (s.tm k).delegate = none) :
    Inv2 s none := by
  refine ⟨h.dlt, h.uniq, fun i d _ hdi => h.dpend i d ?_ hdi⟩
  rintro ⟨⟩
  rw [hd] at hdi
  cases hdi

theorem inv2_stop {e : Ev} (h : Inv2 s (some k)) : Inv2 (stop s k e) none :=
  (inv2_cancel k (inv2_log h)).close (by simp [cancel_fst])

theorem inv2_fires (hi : Inv s) (h2 : Inv2 s none) {h : LH}
    (hm : h ∈ s.handles) {adv dur : Nat} {ret : Bool} {act : Act} {drift : Nat}
    (hf : Fires c s h adv dur act drift ret s') : Inv2 s' none := by
  have m : Inv2 (ran s h adv dur act) (some h.timer) := inv2_doAct h.timer act (inv2_pop hi h2 hm)
  cases hf with
  | arity => exact inv2_stop (inv2_pop hi h2 hm)
  | raise | retFalse => exact inv2_stop m
  | cancelled _ _ hnone => exact (inv2_log m).close hnone
  | again => exact inv2_schedule (inv2_log m)

theorem inv_step (hc : c.good) (hi : Inv s) (h2 : Inv2 s none) (i : Inp) :
    Inv (step c s i).1 ∧ Inv2 (step c s i).1 none := by
  cases i with
  | create I => exact ⟨inv_create I hi, inv2_create hi I h2⟩
  | advance d =>
    exact ⟨hi.shrink (fun _ hx => hx) (by omega), h2.congr rfl rfl fun _ => rfl⟩
  | timerc k => exact ⟨inv_timerc k hi, inv2_timerc k h2⟩
  | redefine k v a =>
    simp only [step]
    split
    · exact ⟨inv_redefine k v a hi, inv2_redefine k v a h2⟩
    · exact ⟨hi, h2⟩
  | dispatch hid adv dur ret act drift =>
    simp only [step]
    split
    · rename_i s' hs
      obtain ⟨h, hm, -, hf⟩ := dispatch_fires hc hs
      exact ⟨inv_fires hc.2.2 hi hm hf, inv2_fires hi h2 hm hf⟩
    · exact ⟨hi, h2⟩

theorem inv_run (hc : c.good) (is : List Inp) (hi : Inv s) (h2 : Inv2 s none) :
    Inv (run c s is) ∧ Inv2 (run c s is) none := by
  induction is generalizing s with
  | nil => exact ⟨hi, h2⟩
  | cons i is ih => exact ih (inv_step hc hi h2 i).1 (inv_step hc hi h2 i).2

theorem inv_reachable (hc : c.good) (is : List Inp) : Inv (run c init is) :=
  (inv_run hc is inv_init inv2_init).1

end

theorem lastTick_max {k : Nat} {b : List Ev} (hb : LogOK b) {st' : Int} {I' : Nat} {t' n' : Int}
    {d' v' : Nat} (hy : Ev.tick k st' I' t' n' d' v' ∈ b) :
    ∃ T n0 d0, lastTick k b = some (T, n0, d0) ∧ n' ≤ n0 := by
  induction b with
  | nil => cases hy
  | cons e rest ih =>
    rcases List.mem_cons.mp hy with rfl | hr
    · exact ⟨t', n', d', by simp [lastTick], Int.le_refl _⟩
    · obtain ⟨T, n0, d0, hl, hle⟩ := ih hb.2 hr
      cases e with
      | tick j st I t n d v =>
        by_cases hjk : j = k
        · subst hjk
          have h1 := hb.1.prev
          simp only [hl] at h1
          exact ⟨t, n, d, by simp [lastTick], by omega⟩
        · exact ⟨T, n0, d0, by simp [lastTick, hjk, hl], hle⟩
      | _ => exact ⟨T, n0, d0, by simpa [lastTick] using hl, hle⟩

theorem lastAny_max {b : List Ev} (hb : LogOK b) {j : Nat} {st' : Int} {I' : Nat} {t' n' : Int}
    {d' v' : Nat} (hy : Ev.tick j st' I' t' n' d' v' ∈ b) :
    ∃ T d0, lastAny b = some (T, d0) ∧ t' + d' ≤ T + d0 := by
  induction b with
  | nil => cases hy
  | cons e rest ih =>
    rcases List.mem_cons.mp hy with rfl | hr
    · exact ⟨t', d', by simp [lastAny], Int.le_refl _⟩
    · obtain ⟨T, d0, hl, hle⟩ := ih hb.2 hr
      cases e with
      | tick j2 st I t n d v =>
        have h1 := hb.1.after T d0 hl
        exact ⟨t, d, by simp [lastAny], by omega⟩
      | _ => exact ⟨T, d0, by simpa [lastAny] using hl, hle⟩

theorem reachable_evok {c : Cfg} (hc : c.good) (is : List Inp) {a b : List Ev} {x : Ev}
    (hl : (run c init is).log = a ++ x :: b) : EvOK b x ∧ LogOK b :=
  LogOK_split (hl ▸ (inv_reachable hc is).logok)

/-! ## property theorems
    For every configuration of the repaired code with `res ≤ minAdv` (`c.good`), every input
    sequence `is` (timer creations, time passing, loop dispatches with arbitrary legal latency /
    callback duration / return value / action / drift, external `.timerc` and redefinitions), and
    every event of the resulting log, `b` being the history before it. -/

/-- never before an interval boundary: a tick charged to boundary `n ≥ 1` happens at
    `t ≥ start + n·interval` -/
theorem tick_on_boundary {c : Cfg} (hc : c.good) (is : List Inp) {a b : List Ev}
    {k I d v : Nat} {st t n : Int}
    (hl : (run c init is).log = a ++ Ev.tick k st I t n d v :: b) :
    1 ≤ n ∧ st + n * (I : Int) ≤ t := by
  have h := (reachable_evok hc is hl).1
  exact ⟨h.pos, h.bnd⟩

/-- never twice for the same boundary: every earlier tick of the same timer was charged to a
    strictly smaller boundary -/
theorem one_tick_per_boundary {c : Cfg} (hc : c.good) (is : List Inp) {a b : List Ev}
    {k I d v : Nat} {st t n : Int}
    (hl : (run c init is).log = a ++ Ev.tick k st I t n d v :: b)
    {st' : Int} {I' : Nat} {t' n' : Int} {d' v' : Nat} (hy : Ev.tick k st' I' t' n' d' v' ∈ b) :
    n' < n := by
  obtain ⟨h, hb⟩ := reachable_evok hc is hl
  obtain ⟨T, n0, d0, hlt, hle⟩ := lastTick_max hb hy
  have h1 := h.prev
  simp only [hlt] at h1
  omega

/-- boundaries missed while a slow callback ran are skipped: the boundary charged is the first
    one strictly after the previous run finished (interval 0: the next loop pass) -/
theorem skips_missed {c : Cfg} (hc : c.good) (is : List Inp) {a b : List Ev}
    {k I d v : Nat} {st t n : Int}
    (hl : (run c init is).log = a ++ Ev.tick k st I t n d v :: b)
    {T n0 : Int} {d0 : Nat} (hprev : lastTick k b = some (T, n0, d0)) :
    (0 < I → st + (n - 1) * (I : Int) ≤ T + d0 ∧ T + d0 < st + n * (I : Int)) ∧
    (I = 0 → n = n0 + 1) := by
  have h := (reachable_evok hc is hl).1
  have h1 := h.prev
  simp only [hprev] at h1
  exact h1.2

/-- a callback never starts before every earlier invocation (of any timer of the loop) has
    finished -/
theorem no_overlap {c : Cfg} (hc : c.good) (is : List Inp) {a b : List Ev}
    {k I d v : Nat} {st t n : Int}
    (hl : (run c init is).log = a ++ Ev.tick k st I t n d v :: b)
    {j : Nat} {st' : Int} {I' : Nat} {t' n' : Int} {d' v' : Nat} (hy : Ev.tick j st' I' t' n' d' v' ∈ b) :
    t' + d' ≤ t := by
  obtain ⟨h, hb⟩ := reachable_evok hc is hl
  obtain ⟨T, d0, hla, hle⟩ := lastAny_max hb hy
  have h1 := h.after T d0 hla
  omega

/-- no invocation after the callback returned false, raised, or a `.timerc` on the timer
    returned 1 — wherever that `.timerc` was issued (externally, inside the timer's own callback,
    inside another timer's callback: all log the same event) -/
theorem stops_for_good {c : Cfg} (hc : c.good) (is : List Inp) {a b : List Ev} {e : Ev} {k : Nat}
    (hl : (run c init is).log = a ++ e :: b) (he : isStop k e = true) :
    ∀ x ∈ a, isTick k x = false := by
  intro x hx
  obtain ⟨a1, a2, rfl⟩ := List.append_of_mem hx
  have h := (reachable_evok hc is (a := a1) (x := x) (b := a2 ++ e :: b) (by simp [hl])).1
  cases x with
  | tick j st I t n d v =>
    by_cases hjk : j = k
    · subst hjk
      simpa [stopped_append, he] using h.live
    · simp [isTick, hjk]
  | _ => rfl

/-- `.timerc` returns 1 exactly when it stopped a live timer (created and not yet stopped),
    and 0 otherwise -/
theorem timerc_result {c : Cfg} (hc : c.good) (is : List Inp) {a b : List Ev} {k r : Nat}
    (hl : (run c init is).log = a ++ Ev.timerc k r :: b) :
    (r = 1 ∧ created k b = true ∧ stopped k b = false) ∨
    (r = 0 ∧ ¬ (created k b = true ∧ stopped k b = false)) :=
  (reachable_evok hc is hl).1

/-- the callback symbol is re-resolved at every tick: the version that runs is the latest
    definition -/
theorem callback_reresolved {c : Cfg} (hc : c.good) (is : List Inp) {a b : List Ev}
    {k I d v : Nat} {st t n : Int}
    (hl : (run c init is).log = a ++ Ev.tick k st I t n d v :: b) :
    v = lastVer k b :=
  (reachable_evok hc is hl).1.ver

theorem Inv.live_scheduled {s : St} (hi : Inv s) (h2 : Inv2 s none) {k : Nat}
    (hcr : created k s.log = true) (hns : stopped k s.log = false) :
    ∃ h ∈ s.handles, h.timer = k ∧ (s.tm k).delegate = some h.id ∧
      HOK (s.tm k).interval (s.tm k).start (lastTick k s.log) h := by
  have hk := (hi.crt k).mp hcr
  cases hd : (s.tm k).delegate with
  | none =>
    rw [(hi.dstop k hk).mp hd] at hns
    cases hns
  | some d =>
    obtain ⟨h, hm, rfl, rfl⟩ := h2.dpend k d nofun hd
    exact ⟨h, hm, rfl, rfl, hi.htime h hm⟩

/-- a live timer (created, not stopped) always has its delegate pending in the loop, charged
    to the first boundary after its previous run finished: the loop's dispatch rule will run it —
    "once per elapsed interval for as long as the callback returns true" -/
theorem live_timer_scheduled {c : Cfg} (hc : c.good) (is : List Inp) {k : Nat}
    (hcr : created k (run c init is).log = true) (hns : stopped k (run c init is).log = false) :
    ∃ h ∈ (run c init is).handles, h.timer = k ∧ ((run c init is).tm k).delegate = some h.id ∧
      HOK ((run c init is).tm k).interval ((run c init is).tm k).start
        (lastTick k (run c init is).log) h := by
  obtain ⟨hi, h2⟩ := inv_run hc is inv_init inv2_init
  exact hi.live_scheduled h2 hcr hns

theorem doAct_log (s : St) (k : Nat) (a : Act) : ∃ new, (doAct s k a).log = new ++ s.log := by
  cases a with
  | none | raise => exact ⟨[], rfl⟩
  | cancelSelf => exact ⟨[.timerc k (cancel s k).2], by simp [doAct, timerc]⟩
  | cancelOther j => exact ⟨[.timerc j (cancel s j).2], by simp [doAct, timerc]⟩
  | redefine => exact ⟨[_], rfl⟩

theorem fires_log {c : Cfg} {s s' : St} {h : LH} {adv dur : Nat} {ret : Bool} {act : Act}
    {drift : Nat} (hf : Fires c s h adv dur act drift ret s') :
    (∃ new, s'.log = new ++ (ticked s h adv dur).log) ∨ s'.log = .raised h.timer :: s.log := by
  obtain ⟨new, hnew⟩ : ∃ new, (ran s h adv dur act).log = new ++ (ticked s h adv dur).log :=
    doAct_log (ticked s h adv dur) h.timer act
  cases hf with
  | arity => exact .inr (by simp)
  | raise => exact .inl ⟨.raised h.timer :: new, by simp [hnew]⟩
  | retFalse => exact .inl ⟨.ret h.timer false :: new, by simp [hnew]⟩
  | cancelled | again => exact .inl ⟨.ret h.timer true :: new, by simp [hnew, schedule]⟩

theorem Inv.due_handle {c : Cfg} (hc : c.good) {s s' : St} (hi : Inv s)
    {hid adv dur : Nat} {ret : Bool} {act : Act} {drift : Nat}
    (hs : dispatch c s hid adv dur ret act drift = some s') :
    ∃ h ∈ s.handles, h.id = hid ∧ ∃ new, s'.log = new ++ s.log ∧
      ((∃ x ∈ new, isTick h.timer x = true) ∨
       ((∃ x ∈ new, isStop h.timer x = true) ∧ (s'.tm h.timer).delegate = none ∧
        ∀ x ∈ s'.handles, x.timer ≠ h.timer)) := by
  obtain ⟨h, hm, hid, hf⟩ := dispatch_fires hc hs
  have hi' := inv_fires hc.2.2 hi hm hf
  refine ⟨h, hm, hid, ?_⟩
  rcases fires_log hf with ⟨new, hnew⟩ | hr
  · exact ⟨new ++ [_], by simpa [ticked] using hnew,
      .inl ⟨_, List.mem_append_right new (List.mem_singleton_self _), by simp [isTick]⟩⟩
  · refine ⟨[_], hr, .inr ⟨⟨_, List.mem_singleton_self _, by simp [isStop]⟩, ?_⟩⟩
    -- `h.timer` is stopped in `s'`, so by the invariant of `s'` it is dead
    have hk : h.timer < s'.ntimers :=
      (hi'.crt _).mp (by simpa [hr, isCreated] using (hi.crt _).mpr (hi.timer_lt hm))
    have hd := (hi'.dstop _ hk).mpr (by simp [hr, isStop])
    refine ⟨hd, fun x hx hxt => ?_⟩
    have := hi'.hdel x hx
    rw [hxt, hd] at this
    cases this

/-- never "armed but body not run": when the loop runs a due handle of timer `k` (any legal
    dispatch from a reachable state), either the callback body runs (a tick of `k` is logged) or a
    stop event of `k` is logged and the timer is dead: no delegate, no pending handle.  The second
    case covers a callback binding that takes parameters (`KGFnWrapper._apply` raises before the
    body), a raise, and a false return. -/
theorem due_handle_runs_body_or_stops {c : Cfg} (hc : c.good) (is : List Inp) {s' : St}
    {hid adv dur : Nat} {ret : Bool} {act : Act} {drift : Nat}
    (hs : dispatch c (run c init is) hid adv dur ret act drift = some s') :
    ∃ h ∈ (run c init is).handles, h.id = hid ∧ ∃ new, s'.log = new ++ (run c init is).log ∧
      ((∃ x ∈ new, isTick h.timer x = true) ∨
       ((∃ x ∈ new, isStop h.timer x = true) ∧ (s'.tm h.timer).delegate = none ∧
        ∀ x ∈ s'.handles, x.timer ≠ h.timer)) :=
  (inv_reachable hc is).due_handle hc hs

/-! ### non-vacuity: a concrete run (repaired code, resolution 2, minAdvance 2) -/

def goodCfg : Cfg := ⟨2, 2, true, true⟩
theorem goodCfg_good : goodCfg.good := ⟨rfl, rfl, by decide⟩

/-- interval 2 s; first dispatch one tick early, callback runs 3000 ticks (skips boundary 2) and
    redefines itself; second run cancels its own timer from inside the callback; `.timerc` again -/
def demo : List Inp :=
  [.create 2048, .advance 2047, .dispatch 0 2 3000 true (.redefine 7 0) 1, .advance 1100,
   .dispatch 1 2 5 true .cancelSelf 0, .timerc 0]

def demoTail : List Ev :=
  [.ret 0 true, .redefined 0 7, .tick 0 0 2048 2049 1 3000 0, .created 0 0 2048]

theorem demo_log : (run goodCfg init demo).log =
    [.timerc 0 0, .ret 0 true, .timerc 0 1] ++ Ev.tick 0 0 2048 6152 3 5 7 :: demoTail := by decide

example : (1 : Int) ≤ 3 ∧ (0 : Int) + 3 * ((2048 : Nat) : Int) ≤ 6152 :=
  tick_on_boundary goodCfg_good demo demo_log
example : (1 : Int) < 3 :=
  one_tick_per_boundary goodCfg_good demo demo_log (n' := 1) (by decide : Ev.tick 0 0 2048 2049 1 3000 0 ∈ demoTail)
example : (0 : Int) + (3 - 1) * ((2048 : Nat) : Int) ≤ 2049 + ((3000 : Nat) : Int) ∧
    (2049 : Int) + ((3000 : Nat) : Int) < 0 + 3 * ((2048 : Nat) : Int) :=
  (skips_missed goodCfg_good demo demo_log (T := 2049) (n0 := 1) (d0 := 3000) (by decide)).1 (by decide)
example : (2049 : Int) + ((3000 : Nat) : Int) ≤ 6152 :=
  no_overlap goodCfg_good demo demo_log (by decide : Ev.tick 0 0 2048 2049 1 3000 0 ∈ demoTail)
example : ∀ x ∈ [Ev.timerc 0 0, Ev.ret 0 true], isTick 0 x = false :=
  stops_for_good goodCfg_good demo (a := [.timerc 0 0, .ret 0 true]) (e := .timerc 0 1)
    (b := Ev.tick 0 0 2048 6152 3 5 7 :: demoTail) (by decide) (by decide)
example :=   -- `.timerc` from inside the callback: r = 1, created, not stopped before
  timerc_result goodCfg_good demo (a := [.timerc 0 0, .ret 0 true]) (k := 0) (r := 1)
    (b := Ev.tick 0 0 2048 6152 3 5 7 :: demoTail) (by decide)
example :=   -- the later external `.timerc`: r = 0
  timerc_result goodCfg_good demo (a := []) (k := 0) (r := 0)
    (b := Ev.ret 0 true :: Ev.timerc 0 1 :: Ev.tick 0 0 2048 6152 3 5 7 :: demoTail) (by decide)
example : 7 = lastVer 0 demoTail :=
  callback_reresolved goodCfg_good demo demo_log
example :=
  live_timer_scheduled goodCfg_good (demo.take 3) (k := 0) (by decide) (by decide)
example : (run goodCfg init (demo.take 3)).handles = [⟨1, 0, false, 6145, 3⟩] := by decide

/-- the callback is redefined to take a parameter while the timer runs: at the next boundary the body
    does not run (no tick), the timer stops, and `.timerc` then reports 0 -/
def demoArity : List Inp :=
  [.create 2048, .advance 2048, .dispatch 0 2 0 true .none 0, .redefine 0 9 1, .advance 2046,
   .dispatch 1 0 0 true .none 0, .timerc 0]
example : (run goodCfg init demoArity).log =
    [.timerc 0 0, .raised 0, .redefined 0 9, .ret 0 true, .tick 0 0 2048 2050 1 0 0, .created 0 0 2048] ∧
    (run goodCfg init demoArity).handles = [] := by decide
example := due_handle_runs_body_or_stops goodCfg_good (demoArity.take 5) (hid := 1) (adv := 0) (dur := 0)
    (ret := true) (act := .none) (drift := 0) (s' := run goodCfg init (demoArity.take 6)) rfl

/-! ### the pinned tree violates the property (both defects of DESIGN §8) -/

/-- pinned tree (fix1 = false): `.timerc` from inside the timer's own callback returns 1 and the
    timer fires again — the negation of `stops_for_good` -/
theorem pinned_cancel_inside_callback_keeps_firing :
    ∃ (is : List Inp) (a b : List Ev) (k : Nat) (x : Ev),
      (run ⟨2, 2, false, true⟩ init is).log = a ++ Ev.timerc k 1 :: b ∧ x ∈ a ∧ isTick k x = true :=
  ⟨[.create 2048, .advance 2048, .dispatch 0 2 0 true .cancelSelf 0, .advance 2048,
    .dispatch 1 2 0 true .none 0],
   [.ret 0 true, .tick 0 0 2048 4100 2 0 0, .ret 0 true],
   [.tick 0 0 2048 2050 1 0 0, .created 0 0 2048], 0, .tick 0 0 2048 4100 2 0 0,
   by decide, by decide, by decide⟩

/-- pinned tree (fix2 = false): after the callback raised, `.timerc` reports 1 for the dead timer —
    the negation of `timerc_result` -/
theorem pinned_timerc_after_raise_reports_one :
    ∃ (is : List Inp) (a b : List Ev) (k : Nat),
      (run ⟨2, 2, true, false⟩ init is).log = a ++ Ev.timerc k 1 :: b ∧ stopped k b = true :=
  ⟨[.create 2048, .advance 2048, .dispatch 0 2 0 true .raise 0, .timerc 0],
   [], [.raised 0, .tick 0 0 2048 2050 1 0 0, .created 0 0 2048], 0, by decide, by decide⟩

/-- why `res ≤ minAdv` is assumed: with the clock frozen during an early dispatch (minAdv = 0)
    even the repaired code fires before the boundary and charges the same boundary twice -/
theorem frozen_clock_double_tick :
    ∃ (is : List Inp) (b : List Ev),
      (run ⟨2, 0, true, true⟩ init is).log =
        Ev.ret 0 true :: Ev.tick 0 0 2048 2047 1 0 0 :: Ev.ret 0 true :: Ev.tick 0 0 2048 2047 1 0 0 :: b :=
  ⟨[.create 2048, .advance 2047, .dispatch 0 0 0 true .none 0, .dispatch 1 0 0 true .none 0],
   [.created 0 0 2048], by decide⟩

end Klong.C15
