/-
  C09 — the interop layer.  Every call form and adverb rests on `Single`: one application of a
  stored Python callable is one logged call with exactly the evaluated arguments.  The repaired
  code has it whenever there are as many arguments as names x, y, z in the signature
  (`single_counted`: only their NUMBER matters), which for a valid signature is its number of
  parameters (`length_lambdaArgsByName`); the pinned tree for prefix signatures only.  The store
  and the wrapper are read off `lookupCtx` as a finite map (`lookupCtx_setEntry`).
-/
import Klong.Model.C09
import Klong.Props.Assoc
namespace Klong.C09

variable {α : Type}

/-! ## signatures -/

def coreOK (core : Sig) : Bool := decide core.Nodup && core.all (fun p => reserved.contains p)

/-- "parameters are among x, y, z, optionally preceded by klong" -/
def validSig : Sig → Bool
  | .klong :: core => coreOK core
  | core => coreOK core

/-- every ordered choice of distinct names from x, y, z: the 16 signatures without `klong` -/
def allCores : List Sig :=
  [[], [.x], [.y], [.z], [.x, .y], [.x, .z], [.y, .x], [.y, .z], [.z, .x], [.z, .y],
   [.x, .y, .z], [.x, .z, .y], [.y, .x, .z], [.y, .z, .x], [.z, .x, .y], [.z, .y, .x]]

/-- the 32 signatures of the property's quantifier -/
def allSigs : List Sig := allCores ++ allCores.map (Param.klong :: ·)

def nParams (sig : Sig) : Nat := (sig.filter (fun p => p != .klong)).length

theorem coreOK_iff (core : Sig) : coreOK core = true ↔ core.Nodup ∧ ∀ p ∈ core, p ∈ reserved := by
  simp only [coreOK, Bool.and_eq_true, decide_eq_true_eq, List.all_eq_true, List.contains_iff_mem]

theorem coreOK_sublist {l core : Sig} (hs : l.Sublist core) (h : coreOK core = true) :
    coreOK l = true := by
  rw [coreOK_iff] at h ⊢
  exact ⟨h.1.sublist hs, fun p hp => h.2 p (hs.subset hp)⟩

theorem validSig_params {sig : Sig} (h : validSig sig = true) :
    coreOK (sig.filter fun p => p != .klong) = true := by
  unfold validSig at h
  split at h
  · rename_i core
    -- the leading `klong` is filtered away by evaluation
    exact coreOK_sublist (List.filter_sublist (l := core)) h
  · exact coreOK_sublist List.filter_sublist h

theorem length_filter_contains {β : Type} [DecidableEq β] (r l : List β) (hr : r.Nodup)
    (hl : l.Nodup) (hsub : ∀ a ∈ l, a ∈ r) :
    (r.filter (fun a => l.contains a)).length = l.length :=
  List.Perm.length_eq ((List.perm_ext_iff_of_nodup (hr.sublist List.filter_sublist) hl).mpr
    fun a => by simpa using hsub a)

/-- the search for x, y, z does not see `klong`; a duplicate-free list drawn from x, y, z is
    counted by filtering x, y, z -/
theorem length_lambdaArgsByName {sig : Sig} (h : validSig sig = true) :
    (lambdaArgsByName sig).length = nParams sig := by
  obtain ⟨hnd, hres⟩ := (coreOK_iff _).mp (validSig_params h)
  rw [nParams, ← length_filter_contains reserved _ (by decide) hnd hres]
  refine congrArg List.length (List.filter_congr fun p hp => ?_)
  have hk : p ≠ .klong := fun hk => absurd (hk ▸ hp) (by decide)
  simp [hk]

theorem lambdaArgs_valid (sig : Sig) (h : validSig sig = true) :
    lambdaArgs sig = reserved.take (nParams sig) ∧ nParams sig ≤ 3 := by
  rw [← length_lambdaArgsByName h]
  exact ⟨rfl, List.length_filter_le _ reserved⟩

/-- the repaired arity is the number of (non-`klong`) parameters, whatever their names and order -/
theorem arity_valid (sig : Sig) (h : validSig sig = true) : arity sig = nParams sig := by
  have ⟨h1, h2⟩ := lambdaArgs_valid sig h
  rw [arity, h1, List.length_take]
  exact Nat.min_eq_left h2

theorem allCores_cons : ∀ t ∈ allCores, ∀ a ∈ reserved, a ∉ t → a :: t ∈ allCores := by
  decide +kernel

/-- the table holds `[]` and, with each of its lists, every extension by a name among x, y, z not
    yet in it (`allCores_cons`, a finite check) -/
theorem coreOK_mem : ∀ core : Sig, coreOK core = true → core ∈ allCores
  | [], _ => List.mem_cons_self
  | a :: t, h => by
    obtain ⟨hnd, hr⟩ := (coreOK_iff _).mp h
    exact allCores_cons t (coreOK_mem t (coreOK_sublist (List.sublist_cons_self a t) h)) a
      (hr a List.mem_cons_self) (List.nodup_cons.mp hnd).1

/-- the signatures `validSig` accepts are among the 32 the correspondence check runs: the
    quantifier of the theorems below is the checked one.  Nothing here rests on it
    (`allCores_cons`, `coreOK_mem` serve it alone) -/
theorem validSig_mem (sig : Sig) (h : validSig sig = true) : sig ∈ allSigs := by
  unfold validSig at h
  split at h
  · exact List.mem_append_right _ (List.mem_map_of_mem (coreOK_mem _ h))
  · exact List.mem_append_left _ (coreOK_mem _ h)

/-! ## one application -/

theorem fetchAll_bind (c : Ctx α) (args : List α) (h3 : args.length ≤ 3) :
    fetchAll (bindArgs args :: c) (reserved.take args.length) = some args := by
  match args with
  | [] | [_] | [_, _] | [_, _, _] => rfl
  | _ :: _ :: _ :: _ :: _ => simp at h3

/-- every `n`-tuple reaches the callable in exactly one logged call, which yields the value -/
def Single (argsOf : Sig → List Param) (w : World α) (c : Ctx α) (id : Nat) (sig : Sig) (n : Nat) :
    Prop :=
  ∀ (args : List α) (log : Log α), args.length = n →
    applyPyWith argsOf w c id sig args log
      = (.val (w.ret id log.length args), log ++ [⟨id, providesKlong sig, args⟩])

section
variable {argsOf : Sig → List Param} {w : World α} {c : Ctx α} {id : Nat} {sig : Sig} {n : Nat}

/-- the core of `_eval_fn` + `KGLambda.__call__` when the declared arguments are the first `n` of
    x, y, z: the call frame alone decides what the callable receives -/
theorem single_prefix (hp : argsOf sig = reserved.take n) (h3 : n ≤ 3) :
    Single argsOf w c id sig n := by
  intro args log hl
  subst hl
  rw [applyPyWith, hp, List.length_take, if_neg (Nat.not_lt.mpr (Nat.min_le_left ..)),
    fetchAll_bind c args h3]

/-- the repaired code: as many arguments as there are names x, y, z in the signature — whatever
    their order, and whatever else the signature holds -/
theorem single_counted : Single lambdaArgs w c id sig (lambdaArgsByName sig).length :=
  single_prefix rfl (List.length_filter_le _ reserved)

theorem single_valid (hs : validSig sig = true) (hn : nParams sig = n) :
    Single lambdaArgs w c id sig n :=
  hn ▸ length_lambdaArgsByName hs ▸ single_counted

/-! ## the adverbs, given `Single` -/

/-- a sequence of applications (what Each, Each-2, Each-Left, Each-Right and Each-Pair do with
    a callable): for EVERY list of argument tuples — equal tuples included, as the members of
    "hello" or [7 7 7] produce — one invocation per tuple, in order, with exactly that tuple; the
    i-th result is the i-th invocation's own return value -/
theorem seq_calls_once_per_tuple (h : Single argsOf w c id sig n) (ts : List (List α))
    (log : Log α) (hl : ∀ t ∈ ts, t.length = n) :
    seqPyWith argsOf w c id sig ts log
      = (.list (seqSpec w id (providesKlong sig) ts log).1,
         log ++ ts.map (fun t => ⟨id, providesKlong sig, t⟩)) := by
  induction ts generalizing log with
  | nil => simp [seqPyWith, seqSpec]
  | cons t ts ih =>
    have hl' := List.forall_mem_cons.mp hl
    simp [seqPyWith, h t log hl'.1, ih _ hl'.2, seqSpec]

/-- call form `f/a`: a left fold in which every step is exactly one invocation with the
    accumulated value and the next member, in that order; a one-member list calls nothing (nor does
    [], the first equation of `overPyWith`) -/
theorem over_folds_single_calls (h : Single argsOf w c id sig 2) (a : α) (es : List α)
    (log : Log α) :
    overPyWith argsOf w c id sig (a :: es) log
      = (.val (overSpec w id (providesKlong sig) a es log).1,
         (overSpec w id (providesKlong sig) a es log).2) := by
  show overFromWith argsOf w c id sig a es log = _
  induction es generalizing a log with
  | nil => rfl
  | cons e es ih => simp only [overFromWith, h [a, e] log rfl, overSpec, ih]

theorem scanFromWith_single (h : Single argsOf w c id sig 2) (a : α) (es : List α) (log : Log α) :
    scanFromWith argsOf w c id sig a es log
      = (.list (scanSpec w id (providesKlong sig) a es log).1,
         (scanSpec w id (providesKlong sig) a es log).2) := by
  induction es generalizing a log with
  | nil => rfl
  | cons e es ih => simp only [scanFromWith, h [a, e] log rfl, scanSpec, ih]

theorem eachPyWith_eq_seq (es : List α) (log : Log α) :
    eachPyWith argsOf w c id sig es log =
      seqPyWith argsOf w c id sig (es.map fun e => [e]) log := by
  induction es generalizing log with
  | nil => rfl
  | cons e es ih => simp only [eachPyWith, seqPyWith, List.map_cons, ih]

theorem eachSpec_eq_seq (k : Bool) (es : List α) (log : Log α) :
    eachSpec w id k es log = seqSpec w id k (es.map fun e => [e]) log := by
  induction es generalizing log with
  | nil => rfl
  | cons e es ih => simp only [eachSpec, seqSpec, List.map_cons, ih]

end

/-! ## projections -/

/-- slots of a projection: position i is fixed to `full[i]` where `mask[i]`, open otherwise -/
def maskSlots : List α → List Bool → List (Option α)
  | v :: vs, m :: ms => (if m then some v else none) :: maskSlots vs ms
  | _, _ => []

/-- the arguments later supplied for the open slots, in order -/
def maskArgs : List α → List Bool → List α
  | v :: vs, m :: ms => if m then maskArgs vs ms else v :: maskArgs vs ms
  | _, _ => []

theorem fill_mask : ∀ (full : List α) (mask : List Bool), mask.length = full.length →
    allSome (fill (maskSlots full mask) (maskArgs full mask)) = some full
  | [], [], _ => rfl
  | v :: vs, m :: ms, h => by
    have ih := congrArg (Option.map (v :: ·)) (fill_mask vs ms (Nat.succ.inj h))
    -- fixed or open, the first slot comes out as `some v`, in front of the rest
    cases m <;> exact ih

/-! ## the context as a finite map -/

theorem lookupCtx_cons (f : Frame α) (fs : Ctx α) (k : Name) :
    lookupCtx (f :: fs) k = (f.lookup k).or (lookupCtx fs k) := by
  rw [lookupCtx]
  cases f.lookup k <;> rfl

theorem lookupCtx_set (f : Frame α) (fs : Ctx α) (n k : Name) (e : Entry α) :
    lookupCtx (f.set n e :: fs) k = if k = n then some e else lookupCtx (f :: fs) k := by
  rw [lookupCtx_cons, lookupCtx_cons, Frame.set, lookup_cons_filter_ne]
  split <;> rfl

theorem lookupCtx_setExisting {c c' : Ctx α} {n : Name} {e : Entry α}
    (h : setExisting c n e = some c') (k : Name) :
    lookupCtx c' k = if k = n then some e else lookupCtx c k := by
  induction c generalizing c' k with
  | nil => simp [setExisting] at h
  | cons f fs ih =>
    rw [setExisting] at h
    split at h
    · cases h
      exact lookupCtx_set f fs n k e
    · rename_i hhas
      obtain ⟨c'', hs, rfl⟩ := Option.map_eq_some_iff.mp h
      have hn : f.lookup n = none := Option.not_isSome_iff_eq_none.mp hhas
      by_cases hk : k = n <;> simp [lookupCtx_cons, ih hs, hk, hn]

theorem lookupCtx_setEntry (c : Ctx α) (n k : Name) (e : Entry α) :
    lookupCtx (setEntry c n e) k = if k = n then some e else lookupCtx c k := by
  unfold setEntry
  split
  · rename_i c' h
    split at h
    · cases h
    · exact lookupCtx_setExisting h k
  · cases c with
    | nil => exact lookupCtx_set [] [] n k e
    | cons f fs => exact lookupCtx_set f fs n k e

/-- `none` is KeyError, which leaves the state as it was: the shape `step` has -/
theorem lookupCtx_delItem_other (c : Ctx α) {n k : Name} (hk : k ≠ n) :
    lookupCtx ((delItem c n).getD c) k = lookupCtx c k := by
  induction c with
  | nil => rfl
  | cons f fs ih =>
    rw [delItem]
    split
    · simp [lookupCtx_cons, lookup_filter_ne, hk]
    · rw [Option.getD_map, lookupCtx_cons, ih, lookupCtx_cons]

theorem lookupCtx_step_other (c : Ctx α) (op : Op α) (k : Name) (hk : k ≠ op.name) :
    lookupCtx (step c op) k = lookupCtx c k := by
  cases op with
  | del n => exact lookupCtx_delItem_other c hk
  | _ => exact (lookupCtx_setEntry c _ k _).trans (if_neg hk)

theorem lookupCtx_runOps_other (c : Ctx α) {ops : List (Op α)} {k : Name}
    (h : ∀ op ∈ ops, op.name ≠ k) : lookupCtx (runOps c ops) k = lookupCtx c k := by
  induction ops generalizing c with
  | nil => rfl
  | cons op ops ih =>
    have h' := List.forall_mem_cons.mp h
    exact (ih _ h'.2).trans (lookupCtx_step_other c op k h'.1.symm)

theorem getItem_wrapper {c : Ctx α} {n : Name} {wr : Wrapper α} (h : getItem c n = .wrapper wr) :
    wr.sym = some n ∧ lookupCtx c n = some wr.fn := by
  unfold getItem at h
  split at h <;> cases h
  -- left is the arm of `getItem` that wraps the entry `e` it found under `n`
  rename_i e _ he
  exact ⟨rfl, he⟩

/-! ## the call forms -/

/-- **Full statement, repaired code.**  For EVERY signature whose parameters are distinct
    names among x, y, z in any order, optionally preceded by `klong` (all 32 of them), every
    context stack (whatever x, y, z mean in enclosing frames and globally) and every argument
    tuple of the signature's length: the callable is invoked exactly once, with exactly the
    evaluated arguments in positional order, is handed the interpreter iff it asked for it, and
    its return value is the value of the application. -/
theorem callable_gets_args_in_order (w : World α) (c : Ctx α) (id : Nat) (sig : Sig)
    (args : List α) (log : Log α) (hs : validSig sig = true) (hl : args.length = nParams sig) :
    applyPy w c id sig args log
      = (.val (w.ret id log.length args), log ++ [⟨id, providesKlong sig, args⟩]) :=
  single_valid hs rfl args log hl

example : applyPy (α := Nat) ⟨fun _ _ as => as.sum⟩ [bindArgs [7, 8, 9], [("y", .data 100)]] 4
    [.klong, .z, .x] [10, 20] [] = (.val 30, [⟨4, true, [10, 20]⟩]) := by decide

/-- the same statement for the pinned tree (arguments derived by NAME) holds only when the
    names present are a prefix of x, y, z: signatures x / x y / x y z in any order -/
theorem callable_gets_args_in_order_partial (w : World α) (c : Ctx α) (id : Nat) (sig : Sig)
    (args : List α) (log : Log α) (hp : lambdaArgsByName sig = reserved.take args.length)
    (h3 : args.length ≤ 3) :
    applyPyByName w c id sig args log
      = (.val (w.ret id log.length args), log ++ [⟨id, providesKlong sig, args⟩]) :=
  single_prefix hp h3 args log rfl

example : applyPyByName (α := Nat) ⟨fun _ _ as => as.sum⟩ [[]] 4 [.y, .x] [10, 20] []
    = (.val 30, [⟨4, false, [10, 20]⟩]) := by decide

/-- pinned tree, counter-witness 1: `klong['h'] = lambda y: …; h(5)` raises KeyError, nothing is
    called -/
theorem byName_fails_on_lambda_y :
    applyPyByName (α := Nat) ⟨fun _ _ _ => 0⟩ [[]] 1 [.y] [5] [] = (.err .keyError, []) := by decide

/-- pinned tree, counter-witness 2: inside a Klong dyad `{h(x)}(1;2)` the callable `lambda y`
    receives the ENCLOSING function's y (2) instead of its own argument (1) -/
theorem byName_leaks_enclosing_frame :
    applyPyByName (α := Nat) ⟨fun _ _ as => as.sum⟩ [bindArgs [1, 2], []] 1 [.y] [1] []
      = (.val 2, [⟨1, false, [2]⟩]) := by decide

/-- pinned tree, counter-witness 3: `lambda x, z` called with two arguments -/
theorem byName_fails_on_lambda_x_z :
    applyPyByName (α := Nat) ⟨fun _ _ _ => 0⟩ [[]] 1 [.x, .z] [5, 6] [] = (.err .keyError, []) := by decide

/-- the repaired code on witness 2: the callable receives its own argument -/
example : applyPy (α := Nat) ⟨fun _ _ as => as.sum⟩ [bindArgs [1, 2], []] 1 [.y] [1] []
    = (.val 1, [⟨1, false, [1]⟩]) := by decide

/-- call form `f@[a b c]` -/
theorem at_gets_args_in_order (w : World α) (c : Ctx α) (id : Nat) (sig : Sig)
    (elems : List α) (log : Log α) (hs : validSig sig = true) (hl : elems.length = nParams sig) :
    atPy w c id sig elems log
      = (.val (w.ret id log.length elems), log ++ [⟨id, providesKlong sig, elems⟩]) :=
  callable_gets_args_in_order w c id sig elems log hs hl

/-- call form projection: `g::f(…)` with some slots fixed, then `g(…)` with the rest: the
    callable is invoked once with the complete argument tuple in positional order -/
theorem projection_gets_args_in_order (w : World α) (c : Ctx α) (id : Nat) (sig : Sig)
    (full : List α) (mask : List Bool) (log : Log α) (hs : validSig sig = true)
    (hl : full.length = nParams sig) (hm : mask.length = full.length) :
    projPy w c id sig (maskSlots full mask) (maskArgs full mask) log
      = (.val (w.ret id log.length full), log ++ [⟨id, providesKlong sig, full⟩]) := by
  rw [projPy, projPyWith, fill_mask full mask hm]
  exact callable_gets_args_in_order w c id sig full log hs hl

example : projPy (α := Nat) ⟨fun _ _ as => as.sum⟩ [[]] 2 [.z, .y, .x]
    (maskSlots [10, 20, 30] [true, false, true]) (maskArgs [10, 20, 30] [true, false, true]) []
    = (.val 60, [⟨2, false, [10, 20, 30]⟩]) := by decide

theorem seqSpec_log (w : World α) (id : Nat) (k : Bool) (ts : List (List α)) (log : Log α) :
    (seqSpec w id k ts log).2 = log ++ ts.map (fun t => ⟨id, k, t⟩) := by
  induction ts generalizing log with
  | nil => simp [seqSpec]
  | cons t ts ih => simp [seqSpec, ih]

theorem seqSpec_length (w : World α) (id : Nat) (k : Bool) (ts : List (List α)) (log : Log α) :
    (seqSpec w id k ts log).1.length = ts.length := by
  induction ts generalizing log with
  | nil => simp [seqSpec]
  | cons t ts ih => simp [seqSpec, ih]

theorem eachSpec_log (w : World α) (id : Nat) (k : Bool) (es : List α) (log : Log α) :
    (eachSpec w id k es log).2 = log ++ es.map (fun e => ⟨id, k, [e]⟩) := by
  rw [eachSpec_eq_seq, seqSpec_log, List.map_map]
  rfl

/-- call form `f'a`: one invocation per member, in order, each with exactly that member; the
    result lists the return values in order -/
theorem each_calls_once_per_member (w : World α) (c : Ctx α) (id : Nat) (sig : Sig)
    (es : List α) (log : Log α) (hs : validSig sig = true) (h1 : nParams sig = 1) :
    eachPy w c id sig es log
      = (.list (eachSpec w id (providesKlong sig) es log).1,
         log ++ es.map (fun e => ⟨id, providesKlong sig, [e]⟩)) := by
  rw [eachPy, eachPyWith_eq_seq, eachSpec_eq_seq,
    seq_calls_once_per_tuple (single_valid hs h1) _ log (List.forall_mem_map.mpr fun _ _ => rfl),
    List.map_map]
  rfl

example : eachPy (α := Nat) ⟨fun _ i as => 100 * i + as.sum⟩ [[]] 3 [.z] [5, 6, 7] []
    = (.list [5, 106, 207], [⟨3, false, [5]⟩, ⟨3, false, [6]⟩, ⟨3, false, [7]⟩]) := by decide

/-- the calls a fold adds: one per further member, each with two arguments, the second being
    that member, in order -/
theorem overSpec_log (w : World α) (id : Nat) (k : Bool) (acc : α) (es : List α) (log : Log α) :
    ∃ ext, (overSpec w id k acc es log).2 = log ++ ext ∧ ext.length = es.length ∧
      ext.map (fun c => c.args.tail) = es.map (fun e => [e]) ∧
      ∀ c ∈ ext, c.id = id ∧ c.klong = k ∧ c.args.length = 2 := by
  induction es generalizing acc log with
  | nil => exact ⟨[], by simp [overSpec]⟩
  | cons e es ih =>
    obtain ⟨ext, h1, h2, h3, h4⟩ := ih (w.ret id log.length [acc, e]) (log ++ [⟨id, k, [acc, e]⟩])
    exact ⟨⟨id, k, [acc, e]⟩ :: ext, by simpa [overSpec, h1, h2, h3] using h4⟩

theorem overSpec_length (w : World α) (id : Nat) (k : Bool) (acc : α) (es : List α) (log : Log α) :
    (overSpec w id k acc es log).2.length = log.length + es.length := by
  obtain ⟨ext, h1, h2, -⟩ := overSpec_log w id k acc es log
  rw [h1, List.length_append, h2]

example : overPy (α := Nat) ⟨fun _ _ as => as.sum⟩ [[]] 3 [.y, .z] [1, 2, 3, 4] []
    = (.val 10, [⟨3, false, [1, 2]⟩, ⟨3, false, [3, 3]⟩, ⟨3, false, [6, 4]⟩]) := by decide

/-! ## the other adverbs -/

/-- repeats are not shared: f'"ll" makes two invocations and the second result is the second
    invocation's return value -/
example : seqPy (α := Nat) ⟨fun _ i _ => 100 + i⟩ [[]] 3 [.klong, .y] [[7], [7], [7]] []
    = (.list [100, 101, 102], [⟨3, true, [7]⟩, ⟨3, true, [7]⟩, ⟨3, true, [7]⟩]) := by decide

theorem pairsOf_length2 : ∀ (es : List α), ∀ t ∈ pairsOf es, t.length = 2
  | [] | [_] => by simp [pairsOf]
  | _ :: b :: rest => List.forall_mem_cons.mpr ⟨rfl, pairsOf_length2 (b :: rest)⟩

/-- Each-Pair `f:'a` (two or more members): one invocation per adjacent pair, in order -/
theorem each_pair_calls_once_per_pair (w : World α) (c : Ctx α) (id : Nat) (sig : Sig)
    (a b : α) (rest : List α) (log : Log α) (hs : validSig sig = true) (h2 : nParams sig = 2) :
    eachPairPyWith lambdaArgs w c id sig (a :: b :: rest) log
      = (.list (seqSpec w id (providesKlong sig) (pairsOf (a :: b :: rest)) log).1,
         log ++ (pairsOf (a :: b :: rest)).map (fun t => ⟨id, providesKlong sig, t⟩)) := by
  simp only [eachPairPyWith]
  exact seq_calls_once_per_tuple (single_valid hs h2) _ log (pairsOf_length2 _)

/-- Each-Left `a f:\b`: f(a;b1), …, f(a;bN) — one invocation per member of b, in order -/
theorem each_left_calls_once_per_member (w : World α) (c : Ctx α) (id : Nat) (sig : Sig)
    (a : α) (bs : List α) (log : Log α) (hs : validSig sig = true) (h2 : nParams sig = 2) :
    eachLeftPyWith lambdaArgs w c id sig a bs log
      = (.list (seqSpec w id (providesKlong sig) (bs.map fun b => [a, b]) log).1,
         log ++ bs.map (fun b => ⟨id, providesKlong sig, [a, b]⟩)) := by
  rw [eachLeftPyWith, seq_calls_once_per_tuple (single_valid hs h2) _ log
    (List.forall_mem_map.mpr fun _ _ => rfl), List.map_map]
  rfl

/-- Each-Right `a f:/b`: f(b1;a), …, f(bN;a) -/
theorem each_right_calls_once_per_member (w : World α) (c : Ctx α) (id : Nat) (sig : Sig)
    (a : α) (bs : List α) (log : Log α) (hs : validSig sig = true) (h2 : nParams sig = 2) :
    eachRightPyWith lambdaArgs w c id sig a bs log
      = (.list (seqSpec w id (providesKlong sig) (bs.map fun b => [b, a]) log).1,
         log ++ bs.map (fun b => ⟨id, providesKlong sig, [b, a]⟩)) := by
  rw [eachRightPyWith, seq_calls_once_per_tuple (single_valid hs h2) _ log
    (List.forall_mem_map.mpr fun _ _ => rfl), List.map_map]
  rfl

/-- Each-2 `a f'b`: f(a1;b1), …, one invocation per position -/
theorem each2_calls_once_per_position (w : World α) (c : Ctx α) (id : Nat) (sig : Sig)
    (as bs : List α) (log : Log α) (hs : validSig sig = true) (h2 : nParams sig = 2) :
    each2PyWith lambdaArgs w c id sig as bs log
      = (.list (seqSpec w id (providesKlong sig) (List.zipWith (fun a b => [a, b]) as bs) log).1,
         log ++ (List.zipWith (fun a b => [a, b]) as bs).map (fun t => ⟨id, providesKlong sig, t⟩)) := by
  refine seq_calls_once_per_tuple (single_valid hs h2) _ log fun t ht => ?_
  obtain ⟨i, hi, rfl⟩ := List.mem_iff_getElem.mp ht
  simp

/-- same log as Over, one value per further member, the last of which is Over's value -/
theorem scanSpec_log (w : World α) (id : Nat) (k : Bool) (acc : α) (es : List α) (log : Log α) :
    (scanSpec w id k acc es log).2 = (overSpec w id k acc es log).2 ∧
    (scanSpec w id k acc es log).1.length = es.length ∧
    ((scanSpec w id k acc es log).1.getLast?).getD acc = (overSpec w id k acc es log).1 := by
  induction es generalizing acc log with
  | nil => simp [scanSpec, overSpec]
  | cons e es ih =>
    obtain ⟨h1, h2, h3⟩ := ih (w.ret id log.length [acc, e]) (log ++ [⟨id, k, [acc, e]⟩])
    simp [scanSpec, overSpec, h1, h2, ← h3, List.getLast?_cons]

/-- Scan `f\a`: the invocations of Over (the same log), every intermediate value kept
    (`scanSpec_log`: the last is the value of `f/a`) -/
theorem scan_folds_single_calls (w : World α) (c : Ctx α) (id : Nat) (sig : Sig)
    (a : α) (es : List α) (log : Log α) (hs : validSig sig = true) (h2 : nParams sig = 2) :
    scanPy w c id sig (a :: es) log
      = (.list (a :: (scanSpec w id (providesKlong sig) a es log).1),
         (overSpec w id (providesKlong sig) a es log).2) := by
  simp only [scanPy, scanPyWith, scanFromWith_single (single_valid hs h2),
    (scanSpec_log w id (providesKlong sig) a es log).1]

example : scanPy (α := Nat) ⟨fun _ _ as => as.sum⟩ [[]] 3 [.y, .z] [1, 1, 1] []
    = (.list [1, 2, 3], [⟨3, false, [1, 1]⟩, ⟨3, false, [2, 1]⟩]) := by decide

/-- Over-Neutral `a f/b` is the fold started from `a` -/
theorem over_neutral_folds_single_calls (w : World α) (c : Ctx α) (id : Nat) (sig : Sig)
    (a : α) (bs : List α) (log : Log α) (hs : validSig sig = true) (h2 : nParams sig = 2) :
    overNeutralPyWith lambdaArgs w c id sig a bs log
      = (.val (overSpec w id (providesKlong sig) a bs log).1,
         (overSpec w id (providesKlong sig) a bs log).2) :=
  over_folds_single_calls (single_valid hs h2) a bs log

/-! ## the store -/

/-- assignments to a name do not disturb any other name -/
theorem store_set_other (c : Ctx α) (n k : Name) (v : PyVal α) (hk : k ≠ n) :
    lookupCtx (setItem c n v) k = lookupCtx c k := by
  rw [setItem, lookupCtx_setEntry, if_neg hk]

/-- the latest assignment wins, whatever was bound before (data, a Python callable, a Klong
    function) — in particular a callable assigned over an existing name is wrapped like any other -/
theorem store_last_write_wins (c : Ctx α) (n : Name) (v : PyVal α) :
    lookupCtx (setItem c n v) n = some (wrap v) := by
  rw [setItem, lookupCtx_setEntry, if_pos rfl]

example : lookupCtx (setItem [[("f", Entry.data (1 : Nat))]] "f" (.callable 3 [.y])) "f"
    = some (.pyfn 3 [.y]) := by decide

/-- `klong[n] = v` for a data value: `klong[n]` reads the same value back, programs see it as
    `n`, and this stays so through every later history of assignments, definitions and deletions
    that does not touch `n` (whatever else it does) -/
theorem store_roundtrip (c : Ctx α) (n : Name) (v : α) (ops : List (Op α))
    (h : ∀ op ∈ ops, op.name ≠ n) :
    getItem (runOps (setItem c n (.data v)) ops) n = .data v ∧
    lookupCtx (runOps (setItem c n (.data v)) ops) n = some (.data v) := by
  have hl := (lookupCtx_runOps_other _ h).trans (store_last_write_wins c n (.data v))
  exact ⟨by simp [getItem, hl, wrap], hl⟩

example : getItem (runOps (setItem [[("a", Entry.data 1)], [("b", .kfn 1 0)]] "b" (.data (7 : Nat)))
    [.set "a" (.callable 3 [.x]), .del "a", .defk "f" 2 5]) "b" = .data 7 := by decide

/-- after `del klong[n]` in the global frame the name is gone -/
theorem store_del_global (f : Frame α) (n : Name) (c' : Ctx α) (h : delItem [f] n = some c') :
    lookupCtx c' n = none := by
  rw [delItem] at h
  split at h
  · cases h
    simp [lookupCtx, lookup_filter_ne]
  · simp [delItem] at h

example : (delItem [[("a", Entry.data (1 : Nat)), ("b", .data 2)]] "a").map (fun c => lookupCtx c "a")
    = some none := by decide

/-- a stored callable reads back as a callable that behaves identically: `klong[n] = f`, later
    `g = klong[n]`; calling `g(*args)` — as long as `n` has not become a Klong function —
    invokes `f` exactly once with exactly `args` and returns its return value -/
theorem stored_callable_roundtrip (w : World α) (c : Ctx α) (n : Name) (id : Nat) (sig : Sig)
    (ops : List (Op α)) (h : ∀ op ∈ ops, op.name ≠ n)
    (args : List α) (log : Log α) (hs : validSig sig = true) (hl : args.length = nParams sig) :
    ∃ wr, getItem (setItem c n (.callable id sig)) n = .wrapper wr ∧
      wrapperCall w (runOps (setItem c n (.callable id sig)) ops) wr args log
        = (.val (w.ret id log.length args), log ++ [⟨id, providesKlong sig, args⟩]) := by
  have hl0 := store_last_write_wins c n (.callable id sig)
  refine ⟨⟨some n, .pyfn id sig⟩, by simp [getItem, hl0, wrap], ?_⟩
  simp only [wrapperCall, wrapperTarget, (lookupCtx_runOps_other _ h).trans hl0, wrap, entryArity,
    arity_valid sig hs, hl, ne_eq, not_true_eq_false, if_false, applyEntry, applyBase]
  exact callable_gets_args_in_order w _ id sig args log hs hl

/-! ## the Python-side wrapper of a Klong function -/

/-- `klong[n](*args)` returns what the Klong call `n(a;b;c)` returns — in every state, for a
    wrapper obtained at any earlier time (whatever it captured then), whenever `n` is currently a
    Klong function (a lambda or a projection) taking `args.length` arguments -/
theorem wrapper_eq_klong_call (w : World α) (c : Ctx α) (wr : Wrapper α) (n : Name) (e : Entry α)
    (args : List α) (log : Log α) (hs : wr.sym = some n) (he : lookupCtx c n = some e)
    (hk : (∃ ar b, e = .kfn ar b) ∨ (∃ base slots, e = .proj base slots))
    (ha : args.length = entryArity e) :
    wrapperCall w c wr args log = klongCall w c n args log := by
  -- `wrapperTarget` is the current binding of `n`, which is what `klongCall` looks up, and the
  -- arity test passes by `ha`: both sides are `applyEntry` on `e`
  rcases hk with ⟨ar, b, rfl⟩ | ⟨base, slots, rfl⟩ <;>
    simp [wrapperCall, wrapperTarget, hs, he, klongCall, ha]

/-- the wrapper follows later redefinitions: obtained in state `c0` (bound to anything then),
    after ANY history that leaves `n` bound to a Klong function of arity `ar` and body `b`, a
    call with `ar` arguments runs body `b` on exactly those arguments -/
theorem wrapper_follows_redefinition (w : World α) (c0 : Ctx α) (n : Name) (wr : Wrapper α)
    (ops : List (Op α)) (ar b : Nat) (args : List α) (log : Log α)
    (hg : getItem c0 n = .wrapper wr)
    (hnow : lookupCtx (runOps c0 ops) n = some (.kfn ar b)) (ha : args.length = ar) :
    wrapperCall w (runOps c0 ops) wr args log = (.kres b args, log) := by
  subst ha
  simp [wrapperCall, wrapperTarget, (getItem_wrapper hg).1, hnow, entryArity, applyEntry, applyBase]

example : wrapperCall (α := Nat) ⟨fun _ _ _ => 0⟩
    (runOps [[("f", .kfn 1 10)]] [.defk "f" 2 11, .del "f", .defk "f" 2 12])
    ⟨some "f", .kfn 1 10⟩ [5, 6] [] = (.kres 12 [5, 6], []) := by decide

/-- a wrong number of arguments is rejected against the CURRENT definition, and nothing runs -/
theorem wrapper_rejects_wrong_arity (w : World α) (c : Ctx α) (wr : Wrapper α) (n : Name)
    (ar b : Nat) (args : List α) (log : Log α) (hs : wr.sym = some n)
    (hnow : lookupCtx c n = some (.kfn ar b)) (ha : args.length ≠ ar) :
    wrapperCall w c wr args log = (.err .arityError, log) := by
  simp [wrapperCall, wrapperTarget, hs, hnow, entryArity, ha]

example : wrapperCall (α := Nat) ⟨fun _ _ _ => 0⟩ (runOps [[("f", .kfn 1 10)]] [.defk "f" 2 11])
    ⟨some "f", .kfn 1 10⟩ [5] [] = (.err .arityError, []) := by decide

/-- in general: the arity enforced is that of the function the wrapper resolves to -/
theorem wrapper_rejects_wrong_arity_general (w : World α) (c : Ctx α) (wr : Wrapper α)
    (args : List α) (log : Log α) (ha : args.length ≠ entryArity (wrapperTarget c wr)) :
    wrapperCall w c wr args log = (.err .arityError, log) := by
  simp [wrapperCall, ha]

/-- the wrapper survives deletion: once `n` is unbound it runs the function it captured when it
    was obtained, with the captured arity -/
theorem wrapper_survives_deletion (w : World α) (c0 : Ctx α) (n : Name) (wr : Wrapper α)
    (ops : List (Op α)) (args : List α) (log : Log α)
    (hg : getItem c0 n = .wrapper wr) (hdel : lookupCtx (runOps c0 ops) n = none) :
    lookupCtx c0 n = some wr.fn ∧
    wrapperCall w (runOps c0 ops) wr args log =
      if args.length ≠ entryArity wr.fn then (.err .arityError, log)
      else applyEntry w (runOps c0 ops) wr.fn args log := by
  obtain ⟨hs, hf⟩ := getItem_wrapper hg
  exact ⟨hf, by simp [wrapperCall, wrapperTarget, hs, hdel]⟩

example : wrapperCall (α := Nat) ⟨fun _ _ _ => 0⟩ (runOps [[("f", .kfn 2 10)]] [.del "f"])
    ⟨some "f", .kfn 2 10⟩ [5, 6] [] = (.kres 10 [5, 6], []) := by decide

/-- a projection bound to a name is called through the wrapper with its open slots only -/
example : wrapperCall (α := Nat) ⟨fun _ _ _ => 0⟩ [[("g", .proj "f" [some 1, none, some 3]), ("f", .kfn 3 10)]]
    ⟨some "g", .proj "f" [some 1, none, some 3]⟩ [2] [] = (.kres 10 [1, 2, 3], []) := by decide

end Klong.C09
