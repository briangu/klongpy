/-
  C12 — the only state the parser changes is the module, and only through `parse_module`
  (`Reach`), for every function, every input and every amount of fuel (`lexer_rs`, `mspec_all`).
-/
import Klong.Model.C12
namespace Klong.C12

/-- `m'` is `m` after zero or more `parse_module` calls -/
inductive Reach : PState → PState → Prop
  | refl (m : PState) : Reach m m
  | step {m m1 : PState} (nm : Node) : Reach m m1 → Reach m (parseModule m1 nm)

theorem Reach.trans {a b c : PState} (h1 : Reach a b) (h2 : Reach b c) : Reach a c := by
  induction h2 with
  | refl => exact h1
  | step nm _ ih => exact Reach.step nm ih

def RS {α : Type} (m : PState) : Res α → Prop
  | .ok _ _ m' _ => Reach m m'
  | .err _ m' _ => Reach m m'
  | .spin _ => True
  | .outOfFuel => True

section
variable {α β : Type} {m m1 : PState} {r : Res α} {t : Text} {i k st : Nat}

theorem RS.state {m' : PState} (h : RS m r) (hs : r.state = some m') : Reach m m' := by
  cases r with
  | ok i v m1 st | err e m1 st => exact Option.some.inj hs ▸ h
  | spin st | outOfFuel => exact nomatch hs

theorem rs_ite {c : Prop} [Decidable c] {a b : Res α} (ha : RS m a) (hb : RS m b) :
    RS m (if c then a else b) := by
  split
  · exact ha
  · exact hb

theorem rs_addSteps (h : RS m r) : RS m (r.addSteps k) := by
  cases r <;> exact h

theorem rs_trans (h1 : Reach m m1) (h2 : RS m1 r) : RS m r := by
  cases r with
  | ok i v m' st | err e m' st => exact Reach.trans h1 h2
  | spin st | outOfFuel => trivial

theorem rs_bind {r : Res β} {f : Nat → β → PState → Res α} (h : RS m r)
    (hf : ∀ i v m1, RS m1 (f i v m1)) : RS m (r.bind f) := by
  cases r with
  | ok i v m1 st => exact rs_trans h (rs_addSteps (hf i v m1))
  | err e m' st => exact h
  | spin st | outOfFuel => trivial

theorem rs_cexpect {ch : Char} {f : Nat → Res α} (h : RS m (f (i + 1))) :
    RS m (cexpect t i ch m f) :=
  rs_ite h (Reach.refl m)

theorem rs_onAdverb {yes : Nat → List Char → Res α} {no : Unit → Res α}
    (hy : ∀ i' adv, RS m (yes i' adv)) (hn : RS m (no ())) : RS m (onAdverb t i yes no) := by
  unfold onAdverb
  split
  · exact hy _ _
  · exact hn

theorem rs_readSysComment {cfg : Cfg} {mk : List Char} {f : Nat → Nat → Res α}
    (hf : ∀ i' st, RS m (f i' st)) : RS m (readSysComment cfg t i mk m f) := by
  unfold readSysComment
  split
  · exact Reach.refl m
  · split
    · trivial
    · exact hf _ _

/-- the progress-checked loop: go round again after progress, `.spin` otherwise -/
theorem rs_again {c : Prop} [Decidable c] (h : RS m r) :
    RS m (if c then r.addSteps k else .spin st) :=
  rs_ite (rs_addSteps h) trivial

end

/-- The state a result of the lexer carries is reached from the one it was given.  (The proof only
    uses `Reach.refl`: every branch hands on `m`, or the state a recursive call returned, so the
    state is in fact the same; that stronger statement is not proved.) -/
theorem lexer_rs (cfg : Cfg) (t : Text) : ∀ fuel : Nat,
    (∀ i rn ign m, RS m (kgRead cfg t fuel i rn ign m)) ∧
    (∀ d i m, RS m (readList cfg t fuel d i m)) ∧
    (∀ d i acc m, RS m (readListLoop cfg t fuel d i acc m)) := by
  intro fuel
  -- strong induction: `fun_cases` needs `fuel` to be a variable (its cases supply `fuel = _ + 1`)
  induction fuel using Nat.strongRecOn with | ind fuel ih => ?_
  refine ⟨fun i rn ign m => ?_, fun d i m => ?_, fun d i acc m => ?_⟩
  · fun_cases kgRead cfg t fuel i rn ign m
    case case1 => trivial
    all_goals obtain ⟨ihK, ihL, -⟩ := ih _ (Nat.lt_succ_self _)
    -- `:` before a number or a string, `:{`, `[`: the three branches that call the lexer again
    case case11 => exact rs_addSteps (ihK ..)
    case case12 =>
      refine rs_bind (ihL ..) fun _ _ m' => ?_
      split <;> exact Reach.refl m'
    case case16 => exact rs_bind (ihL ..) fun _ _ m' => Reach.refl m'
    all_goals exact Reach.refl m
  · fun_cases readList cfg t fuel d i m
    · trivial
    · exact rs_addSteps ((ih _ (Nat.lt_succ_self _)).2.2 ..)
  · fun_cases readListLoop cfg t fuel d i acc m
    · trivial
    · obtain ⟨ihK, -, ihLL⟩ := ih _ (Nat.lt_succ_self _)
      exact rs_bind (ihK ..) fun _ _ m' => rs_ite (Reach.refl m') (rs_again (ihLL ..))
    · exact Reach.refl m

theorem kgRead_rs (cfg : Cfg) (t : Text) (fuel i : Nat) (rn ign : Bool) (m : PState) :
    RS m (kgRead cfg t fuel i rn ign m) := (lexer_rs cfg t fuel).1 i rn ign m

theorem kgReadArray_rs (cfg : Cfg) (t : Text) (fuel i : Nat) (ign : Bool) (m : PState) :
    RS m (kgReadArray cfg t fuel i ign m) := by
  have h := kgRead_rs cfg t fuel i false ign m
  unfold kgReadArray
  split
  · rename_i heq
    rw [heq] at h
    exact h
  · exact h

structure MSpec (cfg : Cfg) (t : Text) (fuel : Nat) : Prop where
  prog : ∀ i ign m, RS m (prog cfg t fuel i ign m)
  progLoop : ∀ i ign acc m, RS m (progLoop cfg t fuel i ign acc m)
  expr : ∀ i ign m, RS m (expr cfg t fuel i ign m)
  exprLoop : ∀ i a ii aa ign m, RS m (exprLoop cfg t fuel i a ii aa ign m)
  readFn : ∀ i m, RS m (readFn cfg t fuel i m)
  applyAdverbs : ∀ i a aa ar dy dv m, RS m (applyAdverbs cfg t fuel i a aa ar dy dv m)
  readFnArgs : ∀ i m, RS m (readFnArgs cfg t fuel i m)
  fnArgsLoop : ∀ i k acc m, RS m (fnArgsLoop cfg t fuel i k acc m)
  readCond : ∀ i m, RS m (readCond cfg t fuel i m)
  readExprArray : ∀ i m, RS m (readExprArray cfg t fuel i m)
  exprArrayLoop : ∀ i acc m, RS m (exprArrayLoop cfg t fuel i acc m)
  factor : ∀ i ign m, RS m (factor cfg t fuel i ign m)

theorem mspec_all (cfg : Cfg) (t : Text) : ∀ fuel, MSpec cfg t fuel := by
  intro fuel
  induction fuel with
  | zero => constructor <;> intros <;> trivial
  | succ fuel ih =>
    -- the tail of `_factor`: an adverb chain after the value, or the value itself
    have adverbed : ∀ i2 v m2, RS m2 (onAdverb t i2
        (fun i3 adv => applyAdverbs cfg t fuel i3 v adv 1 false .none m2)
        (fun _ => .ok i2 v m2 1)) :=
      fun _ _ m2 => rs_onAdverb (fun _ _ => ih.applyAdverbs ..) (Reach.refl m2)
    -- at `fuel + 1` each function computes to its body: the rules are matched against that body as
    -- it stands, an `rs_ite` for each `if` with its branches in the order of the text
    exact {
      prog := fun i ign m => rs_addSteps (ih.progLoop ..)
      progLoop := fun i ign acc m =>
        rs_ite (rs_bind (ih.expr ..) fun _ _ m1 =>
            rs_ite (rs_again (ih.progLoop ..))
              (rs_bind (kgRead_rs ..) fun _ _ m2 =>
                rs_ite (Reach.refl m2) (rs_again (ih.progLoop ..))))
          (Reach.refl m)
      expr := fun i ign m =>
        rs_bind (ih.factor ..) fun _ _ m1 =>
          rs_ite (Reach.refl m1)
            (rs_bind (kgRead_rs ..) fun _ _ _ => rs_addSteps (ih.exprLoop ..))
      exprLoop := fun i a ii aa ign m => by
        refine rs_ite
          (rs_bind ?verb fun _ _ _ => rs_bind ?step fun _ _ _ => rs_bind (kgRead_rs ..) fun _ _ _ =>
            rs_again (ih.exprLoop ..))
          (rs_ite (Reach.refl m) (Reach.refl m))
        case verb =>
          exact rs_ite (ih.readFn ..)
            (rs_ite (rs_bind (ih.readFnArgs ..) fun _ _ m3 => Reach.refl m3) (Reach.refl m))
        case step =>
          exact rs_onAdverb (fun _ _ => ih.applyAdverbs ..)
            (rs_bind (ih.expr ..) fun _ _ m4 => Reach.refl m4)
      readFn := fun i m => by
        refine rs_bind (ih.prog ..) fun _ _ m2 => rs_cexpect ?_
        -- `fnArity` answers `.error` or `.ok`
        split
        · exact Reach.refl m2
        · exact rs_ite (rs_bind (ih.readFnArgs ..) fun _ _ m3 => Reach.refl m3) (Reach.refl m2)
      applyAdverbs := fun i a aa ar dy dv m => rs_bind (ih.expr ..) fun _ _ m1 => Reach.refl m1
      readFnArgs := fun i m =>
        rs_ite (Reach.refl m) (rs_ite (Reach.refl m) (rs_addSteps (ih.fnArgsLoop ..)))
      fnArgsLoop := fun i k acc m =>
        rs_bind (kgRead_rs ..) fun _ _ m1 =>
          rs_ite (rs_again (ih.fnArgsLoop ..))
            (rs_ite (rs_cexpect (Reach.refl m1))
              (rs_bind (ih.expr ..) fun _ _ m2 =>
                rs_ite (rs_cexpect (Reach.refl m2)) (rs_again (ih.fnArgsLoop ..))))
      readCond := fun i m =>
        rs_bind (ih.expr ..) fun _ _ m1 => rs_cexpect <| rs_bind (ih.expr ..) fun _ _ m2 =>
          rs_ite (rs_bind (ih.readCond ..) fun _ _ m3 => Reach.refl m3)
            (rs_cexpect <| rs_bind (ih.expr ..) fun _ _ m3 => rs_cexpect (Reach.refl m3))
      readExprArray := fun i m => rs_addSteps (ih.exprArrayLoop ..)
      exprArrayLoop := fun i acc m =>
        rs_ite (rs_bind (ih.expr ..) fun _ _ m1 =>
            rs_ite (rs_again (ih.exprArrayLoop ..))
              (rs_ite (Reach.refl m1) (rs_again (ih.exprArrayLoop ..))))
          (Reach.refl m)
      factor := fun i ign m => by
        refine rs_ite (rs_bind (ih.readExprArray ..) fun _ _ m1 => Reach.refl m1) ?_
        refine rs_bind (kgReadArray_rs ..) fun i1 a m1 => ?_
        -- by the token read: `None`, `{`, a symbol, a monad, `(`, `:[`, anything else
        refine rs_ite (Reach.refl m1) <|
          rs_ite (rs_bind (ih.readFn ..) fun _ _ _ => adverbed ..) <|
          rs_ite ?sym <|
          rs_ite (rs_onAdverb (fun _ _ => ih.applyAdverbs ..)
            (rs_bind (ih.expr ..) fun _ _ m2 => Reach.refl m2)) <|
          rs_ite (rs_bind (ih.expr ..) fun _ _ m2 => rs_cexpect (Reach.refl m2)) <|
          rs_ite (ih.readCond ..) (Reach.refl m1)
        -- a symbol with arguments is a call, of which `.comment` reads on and `.module` is the one
        -- place the state changes
        refine rs_ite (rs_bind (ih.readFnArgs ..) fun i2 fa m2 => ?_) (adverbed ..)
        refine rs_ite ?comment (rs_ite ?module (adverbed ..))
        case comment =>
          -- the marker is no string (an error), or the comment is read and `factor` goes on
          split
          · exact Reach.refl m2
          · exact rs_readSysComment fun _ _ => rs_addSteps (ih.factor ..)
        case module =>
          -- no argument (an error), or the module named by the first
          split
          · exact Reach.refl m2
          · exact rs_trans (.step _ (.refl m2)) (adverbed ..) }

end Klong.C12
