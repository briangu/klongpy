/-
  C12 — `SatW`, the predicate in which the lexer's and the parser's invariants are stated, and the
  fuel `need`ed by a function of a given rank.
-/
import Klong.Props.C12Lexer
namespace Klong.C12

/-! `SatW W P E r`: `r` is `ok` or an error, never `.spin` or `.outOfFuel`, and its steps are at
  most `q` units of work `W` (1 for the lexer, `|t| + 2` for the parser: one look-ahead token costs
  at most a constant number of units). -/

def SatW {α : Type} (W : Nat) (P : Nat → α → Nat → Prop) (E : Nat → Prop) : Res α → Prop
  | .ok i v _ st => ∃ q, st ≤ q * W ∧ P i v q
  | .err _ _ st => ∃ q, st ≤ q * W ∧ E q
  | .spin _ => False
  | .outOfFuel => False

section
variable {α : Type} {W : Nat} {P P' : Nat → α → Nat → Prop} {E E' : Nat → Prop} {r : Res α}
  {i st k : Nat} {v : α} {m : PState}

theorem satW_mono (h : SatW W P E r) (hP : ∀ i v q, P i v q → P' i v q) (hE : ∀ q, E q → E' q) :
    SatW W P' E' r := by
  cases r with
  | ok i v m st => exact h.imp fun q hq => ⟨hq.1, hP _ _ _ hq.2⟩
  | err e m st => exact h.imp fun q hq => ⟨hq.1, hE _ hq.2⟩
  | spin st | outOfFuel => exact h

theorem satW_addSteps (c : Nat) (hk : k ≤ c * W)
    (h : SatW W (fun i v q => P i v (q + c)) (fun q => E (q + c)) r) :
    SatW W P E (r.addSteps k) := by
  cases r with
  | ok i v m st | err e m st =>
    obtain ⟨q, h1, h2⟩ := h
    refine ⟨q + c, ?_, h2⟩
    rw [Nat.add_mul]
    omega
  | spin st | outOfFuel => exact h

theorem satW1_tail (h : SatW 1 P' E' r) (hP : ∀ i v q, P' i v q → P i v (q + k))
    (hE : ∀ q, E' q → E (q + k)) : SatW 1 P E (r.addSteps k) :=
  satW_addSteps k (Nat.le_of_eq (Nat.mul_one k).symm) (satW_mono h hP hE)

@[elab_as_elim]
theorem SatW.elim {C : Res α → Prop} (h : SatW W P E r)
    (ok : ∀ i v m st q, st ≤ q * W → P i v q → C (.ok i v m st))
    (err : ∀ e m st q, st ≤ q * W → E q → C (.err e m st)) : C r := by
  cases r with
  | ok i v m st => exact Exists.elim h fun q hq => ok i v m st q hq.1 hq.2
  | err e m st => exact Exists.elim h fun q hq => err e m st q hq.1 hq.2
  | spin st | outOfFuel => exact False.elim h

theorem satW1_ok (h : P i v st) : SatW 1 P E (.ok i v m st) :=
  ⟨st, Nat.le_of_eq (Nat.mul_one st).symm, h⟩

theorem satW1_err {e : Err} (h : E st) : SatW 1 P E (.err e m st : Res α) :=
  ⟨st, Nat.le_of_eq (Nat.mul_one st).symm, h⟩

/-- the callee's cost `q1` is carried into what the continuation has to show -/
theorem satW_bind {β : Type} {P1 : Nat → β → Nat → Prop} {E1 : Nat → Prop} {r : Res β}
    {k : Nat → β → PState → Res α} (h : SatW W P1 E1 r) (hE : ∀ q, E1 q → E q)
    (hk : ∀ i v m q1, P1 i v q1 →
      SatW W (fun i' v' q => P i' v' (q + q1)) (fun q => E (q + q1)) (k i v m)) :
    SatW W P E (r.bind k) := by
  cases r with
  | ok i v m st =>
    obtain ⟨q1, h1, h2⟩ := h
    exact satW_addSteps q1 h1 (hk i v m q1 h2)
  | err e m st => exact h.imp fun q hq => ⟨hq.1, hE _ hq.2⟩
  | spin st | outOfFuel => exact h

end

/-- Fuel needed by a function of rank `r` at index `i` of a text of length `n`.  The ranks (1, 2, 3
    for the lexer, above `lexer_spec`, which writes `need n i r ≤ fuel` as
    `8 * (n + 1) + r ≤ fuel + 8 * i`; 2 … 6 for the parser, in `Spec`) order the functions that call
    one another without reading on: a callee at the same index has a lower rank; a character read
    frees 8 units, enough for a callee of any rank. -/
abbrev need (n i r : Nat) : Nat := 8 * (n + 1 - i) + r

end Klong.C12
