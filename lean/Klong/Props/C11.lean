/-
  C11 — what `kg_write` writes, `kg_read` reads back.

  Every reader lemma is about the written text in front of a continuation that is empty or starts
  with a separator (`Follow`), so that an element of a list and a whole text are one case.
-/
import Klong.Model.C11
import Klong.Props.Digits
namespace Klong.C11

theorem digit_ne {c : Char} (h : isDigit c = true) (d : Char) (hd : isDigit d = false) : c ≠ d := by
  rintro rfl
  rw [h] at hd
  cases hd

theorem digit_not_space {c : Char} (h : isDigit c = true) : isSpace c = false := by
  have r : 48 ≤ c.toNat ∧ c.toNat ≤ 57 := by
    simpa [isDigit] using h
  simp only [isSpace, Bool.or_eq_false_iff, Bool.and_eq_false_iff, beq_eq_false_iff_ne, ne_eq,
    decide_eq_false_iff_not]
  refine ⟨⟨digit_ne h ' ' (by decide), ?_⟩, ?_⟩ <;> omega

theorem digit_symbolic {c : Char} (h : isDigit c = true) : isSymbolic c = true := by
  simp [isSymbolic, h]

/-- characters that may follow a written value: the separating blank, a closing bracket or brace -/
def isTerm (c : Char) : Bool := c == ' ' || c == ']' || c == '}'

def Follow (rest : List Char) : Prop := ∀ c r, rest = c :: r → isTerm c = true

theorem follow_nil : Follow [] :=
  fun _ _ h => nomatch h

theorem follow_cons {c : Char} {r : List Char} (h : isTerm c = true) : Follow (c :: r) := by
  intro c' r' e
  cases e
  exact h

theorem term_not {c : Char} (h : isTerm c = true) :
    isDigit c = false ∧ c ≠ '.' ∧ c ≠ 'e' ∧ isSymbolic c = false := by
  simp only [isTerm, Bool.or_eq_true, beq_iff_eq] at h
  rcases h with (rfl | rfl) | rfl <;> decide

/-! ## decimal integers -/

theorem readNatAcc_eq_foldl (a : Nat) (s : List Char) :
    readNatAcc a s = s.foldl (fun a c => a * 10 + (c.toNat - 48)) a := by
  induction s generalizing a with
  | nil => rfl
  | cons c r ih => exact ih _

theorem showNatF_spec {f n : Nat} (h : n < f) :
    (showNatF f n).all isDigit = true ∧ showNatF f n ≠ [] ∧ readNat (showNatF f n) = n := by
  rw [digits_eq_toDigits (g := showNatF) (fun _ _ => rfl) h]
  exact ⟨toDigits_isDigit n, Nat.toDigits_ne_nil, (readNatAcc_eq_foldl 0 _).trans (toDigits_val n)⟩

/-- a numeral as `read_num` takes it apart: an optional `-` and the body -/
abbrev signed (sg : Bool) (b : List Char) : List Char := if sg then '-' :: b else b

theorem readInt_signed (sg : Bool) {d : Char} {r : List Char}
    (ha : (d :: r).all isDigit = true) :
    readInt (signed sg (d :: r)) =
      some (if sg then -(readNat (d :: r) : Int) else readNat (d :: r)) := by
  have hd := List.all_eq_true.mp ha d List.mem_cons_self
  cases sg
  · simp only [signed, readInt, digit_ne hd '-' (by decide), ha, Bool.not_true, Bool.false_eq_true,
      if_false]
  · simp only [signed, readInt, List.isEmpty_cons, ha, Bool.not_true, Bool.or_self,
      Bool.false_eq_true, if_false, if_true]

theorem showInt_signed (n : Int) : ∃ sg d r, isDigit d = true ∧ (d :: r).all isDigit = true ∧
    showInt n = signed sg (d :: r) ∧
    (if sg then -(readNat (d :: r) : Int) else readNat (d :: r)) = n := by
  obtain ⟨ha, hne, hv⟩ := showNatF_spec (Nat.lt_succ_self n.natAbs)
  obtain ⟨d, r, e⟩ := List.exists_cons_of_ne_nil hne
  rw [e] at ha hv
  have hd := ha
  rw [List.all_cons, Bool.and_eq_true] at hd
  refine ⟨decide (n < 0), d, r, hd.1, ha, ?_, ?_⟩
  · simp only [showInt, showNat, e, signed, decide_eq_true_eq]
  · simp only [decide_eq_true_eq]
    split <;> omega

/-- `int(str(n)) = n` -/
theorem readInt_showInt (n : Int) : readInt (showInt n) = some n := by
  obtain ⟨sg, d, r, hd, ha, e, hn⟩ := showInt_signed n
  rw [e, readInt_signed sg ha, hn]

/-! ## the number scanner -/

theorem scan_term (fl : Bool) {rest : List Char} (h : Follow rest) :
    scanNum 0 fl rest = ([], rest, fl) := by
  cases rest with
  | nil => rfl
  | cons c r =>
    obtain ⟨hd, hdot, he, -⟩ := term_not (h c r rfl)
    rw [scanNum]
    simp only [Nat.lt_irrefl, gt_iff_lt, if_false, hdot, he, hd, Bool.false_eq_true]

section
variable {k : Nat} {fl b : Bool} {c : Char} {r t rest : List Char}

theorem scan_blind (hr : scanNum k fl r = (t, rest, b)) :
    scanNum (k + 1) fl (c :: r) = (c :: t, rest, b) := by
  rw [scanNum, if_pos (Nat.succ_pos k), Nat.add_sub_cancel, hr]

theorem scan_dot (hr : scanNum 0 true r = (t, rest, b)) :
    scanNum 0 fl ('.' :: r) = ('.' :: t, rest, b) := by
  rw [scanNum, if_neg (Nat.lt_irrefl 0), if_pos rfl, hr]

theorem scan_e (hs : signNext r = true) (hr : scanNum 2 true r = (t, rest, b)) :
    scanNum 0 fl ('e' :: r) = ('e' :: t, rest, b) := by
  rw [scanNum, if_neg (Nat.lt_irrefl 0), if_neg (by decide), if_pos rfl, if_pos hs, hr]

theorem scan_digit (h : isDigit c = true) (hr : scanNum 0 fl r = (t, rest, b)) :
    scanNum 0 fl (c :: r) = (c :: t, rest, b) := by
  rw [scanNum, if_neg (Nat.lt_irrefl 0), if_neg (digit_ne h '.' (by decide)),
    if_neg (digit_ne h 'e' (by decide)), if_pos h, hr]

theorem scan_digits {ds : List Char} (h : ds.all isDigit = true) (hf : Follow rest) :
    scanNum 0 fl (ds ++ rest) = (ds, rest, fl) := by
  induction ds with
  | nil => exact scan_term fl hf
  | cons c r ih =>
    rw [List.all_cons, Bool.and_eq_true] at h
    exact scan_digit h.1 (ih h.2)
end

/-- blind characters still to be taken in each state of the token grammar -/
def kOf : TokSt → Nat
  | .s4 => 2
  | .s4b => 1
  | _ => 0

/-- whether `read_num` has met the `.` or the `e` in this state -/
def pastPoint : TokSt → Bool
  | .s0 => false
  | .s1 => false
  | _ => true

theorem accTok_s4_sign {r : List Char} (rest : List Char) (h : accTok .s4 r = true) :
    signNext (r ++ rest) = true := by
  cases r with
  | nil => cases h
  | cons s r' =>
    simp only [accTok, Bool.and_eq_true] at h
    simpa [signNext, Bool.or_comm] using h.1

/-- a transition of `accTok` is a step of `scanNum` in the configuration that `kOf` and `pastPoint`
    give -/
theorem scan_tok {tok rest : List Char} (st : TokSt) (fl : Bool) (h : accTok st tok = true)
    (hf : Follow rest) :
    scanNum (kOf st) (pastPoint st || fl) (tok ++ rest) = (tok, rest, true) := by
  -- the cases are the equations of `accTok`, in its order, an `if` giving one per branch:
  -- s0 (1), s1 (2–5), s2 (6), s3 (7–10), s4 (11), s4b (12), s5 (13, 14), the empty text (15)
  fun_induction accTok st tok with
  | case1 c r ih | case6 c r ih | case14 c r ih =>
    rw [Bool.and_eq_true] at h
    exact scan_digit h.1 (ih h.2)
  | case2 c r hc ih | case8 c r hc ih =>
    exact scan_digit hc (ih h)
  | case3 r _ ih =>
    exact scan_dot (ih h)
  | case4 r _ _ ih | case9 r _ ih =>
    -- the `e`, which `scanNum` takes only in front of a sign
    exact scan_e (accTok_s4_sign rest h) (ih h)
  | case11 c r ih | case12 c r ih =>
    -- the sign and the character behind it are taken unseen
    rw [Bool.and_eq_true] at h
    exact scan_blind (ih h.2)
  | case7 | case13 =>
    exact scan_term true hf
  | case5 | case10 | case15 =>
    cases h

theorem scan_real {tok rest : List Char} (h : accTok .s0 tok = true) (hf : Follow rest) :
    scanNum 0 false (tok ++ rest) = (tok, rest, true) :=
  scan_tok .s0 false h hf

/-- the scanner would stop at a `c` behind the first digit: a numeral it takes whole is not taken
    for a character `0cX` -/
theorem scan_second_ne_c {fl b : Bool} {d : Char} {s t rest : List Char} (hd : isDigit d = true)
    (hs : scanNum 0 fl (d :: s) = (d :: t, rest, b)) (hf : Follow rest) : s.head? ≠ some 'c' := by
  cases s with
  | nil => exact fun e => nomatch e
  | cons e s' =>
    rintro ⟨rfl⟩
    rw [scan_digit hd (r := 'c' :: s') rfl] at hs
    cases hs
    exact absurd (hf 'c' s' rfl) (by decide)

theorem accTok_s0_digit {d : Char} {b : List Char} (h : accTok .s0 (d :: b) = true) :
    isDigit d = true := by
  simp only [accTok, Bool.and_eq_true] at h
  exact h.1

theorem wfRealTok_signed {t : List Char} (h : wfRealTok t = true) :
    ∃ sg d b, t = signed sg (d :: b) ∧ isDigit d = true ∧ accTok .s0 (d :: b) = true := by
  cases t with
  | nil => cases h
  | cons c r =>
    simp only [wfRealTok] at h
    split at h
    · subst c
      cases r with
      | nil => cases h
      | cons d b => exact ⟨true, d, b, rfl, accTok_s0_digit h, h⟩
    · exact ⟨false, c, r, rfl, accTok_s0_digit h, h⟩

/-! ## read_num -/

theorem readNum_signed (sg : Bool) {fl : Bool} {d : Char} {b rest : List Char}
    (hd : isDigit d = true) (hs : scanNum 0 false (d :: b ++ rest) = (d :: b, rest, fl)) :
    readNum (signed sg (d :: b) ++ rest) = finishNum sg (d :: b, rest, fl) := by
  rw [← hs]
  cases sg
  · exact if_neg fun e => (digit_ne hd '-' (by decide)) (Option.some.inj e)
  · rfl

/-- `read_num` reads back exactly the token `repr` printed — sign, fraction and exponent forms
    such as `1e-07`, `1e+22` included -/
theorem real_token_roundtrip {tok rest : List Char} (h : wfRealTok tok = true) (hf : Follow rest) :
    readNum (tok ++ rest) = some (.real tok, rest) := by
  obtain ⟨sg, d, b, rfl, hd, hb⟩ := wfRealTok_signed h
  rw [readNum_signed sg hd (scan_real hb hf)]
  simp only [finishNum, if_true, h]

example : wfRealTok "1e-07".toList = true ∧ wfRealTok "1e+22".toList = true ∧
    wfRealTok "-2.5".toList = true ∧ wfRealTok "1.2345678901234568e+17".toList = true ∧
    wfRealTok "5e-324".toList = true ∧ wfRealTok "inf".toList = false ∧ wfRealTok "nan".toList = false ∧
    wfRealTok "17".toList = false := by decide

/-! ## `read_string`, `read_sym`, `skip` -/

/-- for every string — quotes, blanks, newlines, brackets, colons included — `read_string` on the
    escaped text (after the opening quote) returns the string and stops right behind the closing
    quote, which no further quote follows -/
theorem string_quote_roundtrip (cs rest : List Char) (h : ∀ r, rest ≠ '"' :: r) :
    readString false (escape cs ++ '"' :: rest) = (rest, cs) := by
  induction cs with
  | nil =>
    cases rest with
    | nil => rfl
    | cons c r =>
      have hc : c ≠ '"' := fun e => h r (e ▸ rfl)
      simp only [escape, List.nil_append, readString, Bool.false_eq_true, if_false, if_true, hc]
  | cons c r ih =>
    rw [escape]
    split
    · next hc =>
      simp only [List.cons_append, readString, Bool.false_eq_true, if_false, if_true, ih, hc]
    · next hc =>
      simp only [List.cons_append, readString, Bool.false_eq_true, if_false, hc, ih]

theorem readSym_append {s rest : List Char} (hs : s.all isSymbolic = true) (hf : Follow rest) :
    readSym (s ++ rest) = (.sym s, rest) := by
  have hr : rest.takeWhile isSymbolic = [] ∧ rest.dropWhile isSymbolic = rest := by
    cases rest with
    | nil => exact ⟨rfl, rfl⟩
    | cons c r =>
      rw [List.takeWhile_cons, List.dropWhile_cons, (term_not (hf c r rfl)).2.2.2]
      exact ⟨rfl, rfl⟩
  have hs' := List.all_eq_true.mp hs
  rw [readSym, List.takeWhile_append_of_pos hs', List.dropWhile_append_of_pos hs', hr.1, hr.2,
    List.append_nil]

theorem skipSpace_id (nl : Bool) {c : Char} {r : List Char} (h : isSpace c = false) :
    skipSpace nl (c :: r) = c :: r := by
  rw [skipSpace]
  simp only [h, Bool.false_and, Bool.false_eq_true, if_false]

theorem startsComment_ne {c : Char} {r : List Char} (h : c ≠ ':') :
    startsComment (c :: r) = false := by
  cases r with
  | nil => rfl
  | cons d r => simp [startsComment, h]

theorem skipF_id (f : Nat) (nl : Bool) {c : Char} {r : List Char} (hs : isSpace c = false)
    (hc : startsComment (c :: r) = false) : skipF f nl (c :: r) = c :: r := by
  cases f with
  | zero => rw [skipF, skipSpace_id nl hs]
  | succ f =>
    rw [skipF, skipSpace_id nl hs, hc]
    rfl

theorem skipSpace_blank (s : List Char) : skipSpace true (' ' :: s) = skipSpace true s := by
  rw [skipSpace]
  rfl

theorem skipF_blank (f : Nat) (s : List Char) : skipF f true (' ' :: s) = skipF f true s := by
  cases f <;> rw [skipF, skipF, skipSpace_blank]

/-! ## dispatch (`kg_read`'s if-chain) -/

theorem classify_digit (neg : Bool) {c : Char} {r : List Char} (hc : isDigit c = true)
    (hr : r.head? ≠ some 'c') : classify neg (c :: r) = .num := by
  have np : ¬(c = '\n' ∨ c = ';' ∨ c = '(' ∨ c = ')' ∨ c = '{' ∨ c = '}' ∨ c = ']') := by
    rintro (rfl | rfl | rfl | rfl | rfl | rfl | rfl) <;> cases hc
  simp only [classify, np, if_false, hr, and_false, hc, true_or, if_true]

theorem classify_minus {r : List Char} {d : Char} (hd : isDigit d = true) :
    classify true ('-' :: d :: r) = .num := by
  simp +decide [classify, hd]

theorem classify_chr (neg : Bool) (c : Char) (r : List Char) :
    classify neg ('0' :: 'c' :: c :: r) = .chr := by
  cases neg <;> rfl

theorem classify_str (neg : Bool) (r : List Char) : classify neg ('"' :: r) = .str := by
  cases neg <;> rfl

theorem classify_colon_sym (neg : Bool) {a : Char} {r : List Char}
    (h : isAlpha a = true ∨ a = '.') : classify neg (':' :: a :: r) = .colonSym := by
  simp +decide [classify, h]

theorem classify_colon_dict (neg : Bool) (r : List Char) :
    classify neg (':' :: '{' :: r) = .colonDict := by
  cases neg <;> rfl

theorem classify_list (neg : Bool) (r : List Char) : classify neg ('[' :: r) = .lst := by
  cases neg <;> rfl

/-! ## what a written value starts with -/

/-- a non-blank that closes no list or dictionary and opens no shifted comment -/
inductive StartOK : List Char → Prop
  | plain {c : Char} {r : List Char} :
    isSpace c = false → c ≠ ']' → c ≠ '}' → c ≠ ':' → StartOK (c :: r)
  | colon {d : Char} {r : List Char} : d ≠ '"' → StartOK (':' :: d :: r)

theorem startOK_head {w : List Char} (h : StartOK w) :
    ∃ c r, w = c :: r ∧ c ≠ ']' ∧ c ≠ '}' := by
  cases h with
  | plain _ h2 h3 _ => exact ⟨_, _, rfl, h2, h3⟩
  | colon _ => exact ⟨_, _, rfl, by decide, by decide⟩

theorem skipF_start (f : Nat) (nl : Bool) {w : List Char} (h : StartOK w) (rest : List Char) :
    skipF f nl (w ++ rest) = w ++ rest := by
  cases h with
  | plain h1 _ _ h4 => exact skipF_id f nl h1 (startsComment_ne h4)
  | colon hd => exact skipF_id f nl (by decide) (by simp [startsComment, hd])

theorem signed_start (sg : Bool) {d : Char} (b : List Char) (hd : isDigit d = true) :
    StartOK (signed sg (d :: b)) := by
  cases sg
  · exact .plain (digit_not_space hd) (digit_ne hd ']' (by decide)) (digit_ne hd '}' (by decide))
      (digit_ne hd ':' (by decide))
  · exact .plain (by decide) (by decide) (by decide) (by decide)

theorem wfSym_head {s : List Char} (h : wfSym s = true) :
    ∃ a r, s = a :: r ∧ (isAlpha a = true ∨ a = '.') ∧ s.all isSymbolic = true := by
  cases s with
  | nil => cases h
  | cons a r =>
    simp only [wfSym, Bool.and_eq_true, Bool.or_eq_true, beq_iff_eq] at h
    exact ⟨a, r, rfl, h.1, h.2⟩

theorem write_start (v : Val) (h : wfTok v = true) : StartOK (kgWrite v) := by
  cases v with
  | int n =>
    obtain ⟨sg, d, r, hd, -, e, -⟩ := showInt_signed n
    rw [kgWrite, e]
    exact signed_start sg r hd
  | real t =>
    obtain ⟨sg, d, b, rfl, hd, -⟩ := wfRealTok_signed h
    exact signed_start sg b hd
  | sym s =>
    obtain ⟨a, r, rfl, ha, -⟩ := wfSym_head h
    refine .colon ?_
    rintro rfl
    exact absurd ha (by decide)
  | chr _ | str _ | list _ => exact .plain (by decide) (by decide) (by decide) (by decide)
  | dict es => exact .colon (by decide)

/-! ## atoms through `kg_read` -/

theorem read_num (f : Nat) (nl sg : Bool) {fl : Bool} {d : Char} {b rest : List Char}
    (hd : isDigit d = true) (hs : scanNum 0 false (d :: b ++ rest) = (d :: b, rest, fl))
    (hf : Follow rest) :
    kgReadF (f + 1) true nl (signed sg (d :: b) ++ rest) =
      (readNum (signed sg (d :: b) ++ rest)).map fun p => (some p.1, p.2) := by
  have hcl : classify true (signed sg (d :: b) ++ rest) = .num := by
    cases sg
    · exact classify_digit true hd (scan_second_ne_c hd hs hf)
    · exact classify_minus hd
  rw [kgReadF, skipF_start f nl (signed_start sg b hd) rest]
  simp only [hcl]

theorem read_chr (f : Nat) (neg nl : Bool) (c : Char) (rest : List Char) :
    kgReadF (f + 1) neg nl ('0' :: 'c' :: c :: rest) = some (some (.chr c), rest) := by
  have hsk : skipF f nl ('0' :: 'c' :: c :: rest) = '0' :: 'c' :: c :: rest :=
    skipF_start f nl (write_start (.chr c) rfl) rest
  rw [kgReadF]
  simp only [hsk, classify_chr]

theorem read_str (f : Nat) (neg nl : Bool) (cs : List Char) {rest : List Char} (hf : Follow rest) :
    kgReadF (f + 1) neg nl (writeStr cs ++ rest) = some (some (.str cs), rest) := by
  have hs := string_quote_roundtrip cs rest fun r e => absurd (hf '"' r e) (by decide)
  rw [kgReadF, skipF_start f nl (w := writeStr cs) (write_start (.str cs) rfl) rest]
  simp only [writeStr, List.cons_append, List.append_assoc, List.nil_append, classify_str,
    List.drop_succ_cons, List.drop_zero, hs]

theorem read_sym (f : Nat) (neg nl : Bool) {s rest : List Char} (h : wfSym s = true)
    (hf : Follow rest) : kgReadF (f + 1) neg nl (':' :: (s ++ rest)) = some (some (.sym s), rest) := by
  obtain ⟨a, r, e, ha, hall⟩ := wfSym_head h
  have hcl : classify neg (':' :: (s ++ rest)) = .colonSym := by
    subst e
    exact classify_colon_sym neg ha
  have hsk : skipF f nl (':' :: (s ++ rest)) = ':' :: (s ++ rest) :=
    skipF_start f nl (write_start (.sym s) h) rest
  rw [kgReadF]
  simp only [hsk, hcl, List.drop_succ_cons, List.drop_zero, readSym_append hall hf]

/-! ## dictionaries -/

theorem dictSet_new (k v : Val) (acc : List Val)
    (h : ∀ a ∈ acc, keyEq (keyOf a) k = false) : dictSet k v acc = acc ++ [.list [k, v]] := by
  induction acc with
  | nil => rfl
  | cons e es ih =>
    have he := h e (List.mem_cons_self ..)
    have ih' := ih fun a ha => h a (List.mem_cons_of_mem _ ha)
    unfold dictSet
    split
    · rw [keyOf] at he
      rw [he, if_neg Bool.false_ne_true, ih', List.cons_append]
    · rw [ih', List.cons_append]

theorem entriesOK_cons {e : Val} {es : List Val} (h : entriesOK (e :: es) = true) :
    ∃ k v, e = .list [k, v] ∧ isKey k = true ∧ entriesOK es = true := by
  unfold entriesOK at h
  rw [Bool.and_eq_true] at h
  split at h
  · exact ⟨_, _, rfl, h⟩
  · cases h.1

theorem mkDictAcc_id {es : List Val} (acc : List Val) (hok : entriesOK es = true)
    (hdist : keysDistinct es = true)
    (hacc : ∀ a ∈ acc, ∀ e ∈ es, keyEq (keyOf a) (keyOf e) = false) :
    mkDictAcc acc es = some (acc ++ es) := by
  induction es generalizing acc with
  | nil => rw [mkDictAcc, List.append_nil]
  | cons e es ih =>
    obtain ⟨k, v, rfl, hk, hok'⟩ := entriesOK_cons hok
    simp only [keysDistinct, Bool.and_eq_true, List.all_eq_true, Bool.not_eq_true'] at hdist
    rw [mkDictAcc, if_pos hk, dictSet_new k v acc fun a ha => hacc a ha _ (List.mem_cons_self ..),
      ih _ hok' hdist.2, List.append_assoc, List.singleton_append]
    intro a ha e' he'
    rcases List.mem_append.mp ha with ha | ha
    · exact hacc a ha e' (List.mem_cons_of_mem _ he')
    · rw [List.mem_singleton.mp ha]
      exact hdist.1 e' he'

theorem mkDict_id {es : List Val} (hok : entriesOK es = true) (hd : keysDistinct es = true) :
    mkDict es = some es :=
  mkDictAcc_id [] hok hd fun _ ha => nomatch ha

/-! ## lists: the loop of `read_list` -/

theorem readListF_end : ∀ {f : Nat}, 0 < f → ∀ {delim : Char} (rest : List Char),
    delim = ']' ∨ delim = '}' → readListF f delim (delim :: rest) = some ([], rest)
  | f + 1, _, delim, rest, hd => by
    have h : isSpace delim = false ∧ delim ≠ ':' := by
      rcases hd with rfl | rfl <;> decide
    rw [readListF, skipF_id f true h.1 (startsComment_ne h.2)]
    simp only [if_true]

theorem readListF_blank (f : Nat) (delim : Char) (s : List Char) :
    readListF f delim (' ' :: s) = readListF f delim s := by
  cases f with
  | zero => rfl
  | succ f => rw [readListF, readListF, skipF_blank]

theorem readListF_step (f : Nat) {delim : Char} {w : List Char} {x : Val} {tail : List Char}
    (hd : delim = ']' ∨ delim = '}') (hs : StartOK w)
    (hx : kgReadF f true true (w ++ tail) = some (some x, tail)) :
    readListF (f + 1) delim (w ++ tail) =
      match readListF f delim tail with
      | some (qs, rest') => some (x :: qs, rest')
      | none => none := by
  rw [readListF, skipF_start f true hs tail]
  obtain ⟨c, r, rfl, hc1, hc2⟩ := startOK_head hs
  have hne : c ≠ delim := by rcases hd with rfl | rfl <;> assumption
  rw [List.cons_append] at hx ⊢
  simp only [hne, if_false, hx]
  rfl

/-! ## the round trip -/

mutual
theorem read_val : ∀ (v : Val), wfTok v = true → ∀ (f : Nat) (nl : Bool) (rest : List Char),
    Follow rest → (kgWrite v).length < f →
    kgReadF f true nl (kgWrite v ++ rest) = some (some v, rest)
  | _, _, 0, _, _, _, hl => absurd hl (Nat.not_lt_zero _)
  | .int n, _, f + 1, nl, rest, hf, _ => by
    obtain ⟨sg, d, r, hd, ha, e, hn⟩ := showInt_signed n
    have hs := scan_digits (fl := false) ha hf
    rw [kgWrite, e, read_num f nl sg hd hs hf, readNum_signed sg hd hs]
    simp only [finishNum, readInt_signed sg ha, hn, Bool.false_eq_true, if_false,
      Option.map_some]
  | .real t, h, f + 1, nl, rest, hf, _ => by
    rw [wfTok] at h
    obtain ⟨sg, d, b, rfl, hd, hb⟩ := wfRealTok_signed h
    rw [kgWrite, read_num f nl sg hd (scan_real hb hf) hf, real_token_roundtrip h hf]
    rfl
  | .chr c, _, f + 1, nl, rest, _, _ => read_chr f true nl c rest
  | .sym s, h, f + 1, nl, rest, hf, _ => read_sym f true nl h hf
  | .str cs, _, f + 1, nl, rest, hf, _ => read_str f true nl cs hf
  | .list xs, h, f + 1, nl, rest, hf, hl => by
    simp only [kgWrite, List.length_cons, List.length_append, List.length_nil] at hl
    have ih := read_list xs h f ']' rest (Or.inl rfl) (by omega)
    rw [kgReadF, skipF_start f nl (write_start _ h) rest]
    simp only [kgWrite, List.cons_append, List.append_assoc, List.nil_append, classify_list,
      List.drop_succ_cons, List.drop_zero, ih]
  | .dict es, h, f + 1, nl, rest, hf, hl => by
    have h' := h
    simp only [wfTok, Bool.and_eq_true] at h'
    simp only [kgWrite, List.length_cons, List.length_append, List.length_nil] at hl
    have ih := read_list es h'.1.1 f '}' rest (Or.inr rfl) (by omega)
    rw [kgReadF, skipF_start f nl (write_start _ h) rest]
    simp only [kgWrite, List.cons_append, List.append_assoc, List.nil_append, classify_colon_dict,
      List.drop_succ_cons, List.drop_zero, ih, mkDict_id h'.1.2 h'.2, Option.map_some]
theorem read_list : ∀ (xs : List Val), wfTokList xs = true → ∀ (f : Nat) (delim : Char) (rest : List Char),
    (delim = ']' ∨ delim = '}') → (kgWriteList xs).length + 1 < f →
    readListF f delim (kgWriteList xs ++ delim :: rest) = some (xs, rest)
  | _, _, 0, _, _, _, hl => absurd hl (Nat.not_lt_zero _)
  | [], _, f + 1, delim, rest, hd, _ => readListF_end (Nat.succ_pos f) rest hd
  | [x], h, f + 1, delim, rest, hd, hl => by
    simp only [wfTokList, Bool.and_eq_true] at h
    simp only [kgWriteList] at hl ⊢
    have hfol : isTerm delim = true := by
      rcases hd with rfl | rfl <;> rfl
    have hx := read_val x h.1 f true (delim :: rest) (follow_cons hfol) (by omega)
    rw [readListF_step f hd (write_start x h.1) hx, readListF_end (by omega) rest hd]
  | x :: y :: r, h, f + 1, delim, rest, hd, hl => by
    rw [wfTokList, Bool.and_eq_true] at h
    simp only [kgWriteList, List.length_append, List.length_cons] at hl
    have hx := read_val x h.1 f true (' ' :: (kgWriteList (y :: r) ++ delim :: rest))
      (follow_cons rfl) (by omega)
    have ih := read_list (y :: r) h.2 f delim rest hd (by omega)
    rw [kgWriteList, List.append_assoc, List.cons_append,
      readListF_step f hd (write_start x h.1) hx, readListF_blank, ih]
end

mutual
theorem vmatch_refl : ∀ (v : Val), vmatch v v = true
  | .int _ | .real _ | .chr _ | .sym _ | .str _ => by simp [vmatch]
  | .list xs | .dict xs => by
    simp only [vmatch]
    exact vmatchL_refl xs
theorem vmatchL_refl : ∀ (xs : List Val), vmatchL xs xs = true
  | [] => rfl
  | x :: r => by
    simp only [vmatchL, Bool.and_eq_true]
    exact ⟨vmatch_refl x, vmatchL_refl r⟩
end

/-! ## the property theorems -/

/-- Of `WFData v = wfTok v ∧ noCoerce v` the theorems need the first half only.  `noCoerce` is
    the domain of the harness: values that numpy's `kg_asarray` would not change when the real
    interpreter builds them; the model has no such step. -/
theorem wfData_tok {v : Val} (h : WFData v) : wfTok v = true :=
  ((Bool.and_eq_true _ _).mp h).1

/-- for every well-formed data value `v`, at any nesting depth, every continuation `rest` that is
    empty or starts with a separator, newlines counted as blanks or not, and any sufficient fuel:
    `kg_read` on `kg_write(v) ++ rest` returns `v` and stops at `rest`. -/
theorem read_write_general (v : Val) (h : WFData v) (f : Nat) (nl : Bool) (rest : List Char)
    (hf : Follow rest) (hl : (kgWrite v).length < f) :
    kgReadF f true nl (kgWrite v ++ rest) = some (some v, rest) :=
  read_val v (wfData_tok h) f nl rest hf hl

theorem rs_write (v : Val) (h : WFData v) : rs (kgWrite v) = some (v, (kgWrite v).length) := by
  have := read_write_general v h ((kgWrite v).length + 2) false [] follow_nil (by omega)
  rw [List.append_nil] at this
  simp only [rs, this, List.length_nil, Nat.sub_zero]

/-- `.rs` / `.r` of what `.w` wrote: the text of a well-formed data value reads back to a value
    `v'` and the end of the text; `v'` is the original (hence matches it) and writes identically
    again.  Integers (negative ones included), real tokens (exponent forms included), characters
    (quote, blank, newline included), strings over all characters, symbols, lists nested to any
    depth and dictionaries. -/
theorem read_write_roundtrip (v : Val) (h : WFData v) :
    ∃ v', rs (kgWrite v) = some (v', (kgWrite v).length) ∧ v' = v ∧ vmatch v v' = true ∧
      kgWrite v' = kgWrite v :=
  ⟨v, rs_write v h, rfl, vmatch_refl v, rfl⟩

/-- the same inside a list or dictionary (where a negative number is preceded by a blank or a
    bracket): `read_list` returns exactly the written elements. -/
theorem read_write_in_list (xs : List Val) (h : WFData (.list xs)) (rest : List Char) :
    readListF ((kgWriteList xs).length + 2) ']' (kgWriteList xs ++ ']' :: rest) = some (xs, rest) :=
  read_list xs (wfData_tok h) _ ']' rest (Or.inl rfl) (Nat.lt_succ_self _)

def isAtom : Val → Bool
  | .list _ => false
  | .dict _ => false
  | _ => true

theorem not_mem_dot_of_digits {ds : List Char} (h : ds.all isDigit = true) :
    ds.contains '.' = false := by
  rw [List.contains_eq_mem, decide_eq_false_iff_not]
  exact fun hm => absurd (List.all_eq_true.mp h _ hm) (by decide)

/-- `x:$$x` is `x` for integers, reals, characters, strings and symbols -/
theorem form_inverts_format (v : Val) (ha : isAtom v = true) (h : WFData v) :
    (fmt v).bind (form v) = some v := by
  cases v with
  | int n =>
    have hne : (showInt n).isEmpty = false ∧ (showInt n).contains '.' = false := by
      obtain ⟨sg, d, r, -, ha, e, -⟩ := showInt_signed n
      have hdot := not_mem_dot_of_digits ha
      rw [e]
      -- behind a `-` the search goes on into the digits
      cases sg <;> exact ⟨rfl, hdot⟩
    simp only [fmt, Option.bind_some, form, hne.1, hne.2, Bool.false_and, Bool.or_self,
      Bool.false_eq_true, if_false, readInt_showInt, Option.map_some]
  | real t =>
    have ht : wfRealTok t = true := wfData_tok h
    simp only [fmt, Option.bind_some, form, ht, if_true]
  | sym s => simp [fmt, form]
  | chr _ | str _ => rfl
  | list _ | dict _ => cases ha

/-- the data domain is inhabited by a value with every kind in it, nested three deep -/
def sampleVal : Val :=
  .list [.int (-17), .real "1e-07".toList, .real "1e+22".toList, .chr '"', .chr ' ', .chr '\n',
    .str "say \"hi\"\n[:0c]".toList, .sym "foo".toList,
    .list [.list [.list [.int (-1), .str "[".toList]], .list []],
    .dict [.list [.int (-1), .str "x".toList], .list [.chr 'a', .list [.real "-2.5".toList]],
           .list [.sym "k".toList, .dict []]]]

theorem wfData_nonempty : WFData sampleVal := by decide

example : (rs (kgWrite sampleVal)).map (fun p => (kgWrite p.1, p.2)) =
    some (kgWrite sampleVal, (kgWrite sampleVal).length) := by decide +kernel

example : String.ofList (kgWrite (.list [.int (-3), .list [.real "1e+22".toList, .chr ' '], .str "a\"b".toList])) =
    "[-3 [1e+22 0c ] \"a\"\"b\"]" := by decide

/-- inf / nan are outside the domain: written `inf`, read back as the symbol `inf` -/
example : WFData (.real "inf".toList) = False ∧
    (rs "inf".toList).map (fun p => kgWrite p.1) = some ":inf".toList := by
  refine ⟨?_, by decide⟩
  simp only [WFData, eq_iff_iff, iff_false]
  decide

/-- symbol names with letters outside ASCII are in the domain and round-trip -/
def uniVal : Val :=
  .list [.sym "größe".toList, .sym "λ".toList, .chr 'λ', .str "имя 名前 x²".toList,
    .dict [.list [.sym "имя".toList, .sym "名前".toList]]]

example : WFData uniVal := by decide

example : (rs (kgWrite uniVal)).map (fun p => (kgWrite p.1, p.2)) =
    some (kgWrite uniVal, (kgWrite uniVal).length) := by decide +kernel

example : (fmt (.int (-12))).bind (form (.int (-12))) = some (.int (-12)) :=
  form_inverts_format _ rfl (by decide)

end Klong.C11
