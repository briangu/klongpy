/-
  C10 — a dictionary behaves as a finite map under any sequence of operations: the machine of
  Model/C10 refines the heap of finite maps (`step_sim`, lifted to histories in `dict_refines_map`);
  what aliasing, freshness of literals and failing operations mean for lookups is read off `step`.
-/
import Klong.Model.C10
import Klong.Props.Assoc
namespace Klong.C10

/-! ## one dictionary -/

/-- `WFd d` is `(keys d).Nodup` by definition -/
def keys (d : Dict) : List NKey := d.map (fun p => p.1.norm)

theorem absDict_nil (nk : NKey) : absDict [] nk = none := rfl

theorem AMap.upd_upd (m : AMap) (a : NKey) (x y : Option Val) : (m.upd a y).upd a x = m.upd a x := by
  funext nk
  unfold AMap.upd
  split <;> rfl

theorem AMap.upd_comm (m : AMap) {a b : NKey} (h : a ≠ b) (x y : Option Val) :
    (m.upd a y).upd b x = (m.upd b x).upd a y := by
  funext nk
  unfold AMap.upd
  by_cases e : nk = b
  · rw [if_pos e, if_neg fun (e' : nk = a) => h (e' ▸ e), if_pos e]
  · rw [if_neg e, if_neg e]

theorem absDict_cons (k : Key) (v : Val) (rest : Dict) :
    absDict ((k, v) :: rest) = (absDict rest).upd k.norm (some v) := by
  funext nk
  by_cases h : k.norm = nk <;> simp [absDict, AMap.upd, h, eq_comm (a := nk)]

theorem get_eq_absDict (d : Dict) (k : Key) : d.get k = absDict d k.norm := by
  simp [Dict.get, getBy, absDict, keyEq]

theorem set_nil (k : Key) (v : Val) : Dict.set [] k v = [(k, v)] := rfl

theorem set_cons (k' : Key) (v' : Val) (rest : Dict) (k : Key) (v : Val) :
    Dict.set ((k', v') :: rest) k v =
      if k'.norm = k.norm then (k', v) :: rest else (k', v') :: Dict.set rest k v := by
  by_cases h : k'.norm = k.norm <;> simp [Dict.set, setBy, keyEq, h]

theorem del_cons (k' : Key) (v' : Val) (rest : Dict) (k : Key) :
    Dict.del ((k', v') :: rest) k =
      if k'.norm = k.norm then Dict.del rest k else (k', v') :: Dict.del rest k := by
  by_cases h : k'.norm = k.norm <;> simp [Dict.del, keyEq, h]

theorem WFd_cons {k : Key} {v : Val} {rest : Dict} :
    WFd ((k, v) :: rest) ↔ k.norm ∉ keys rest ∧ WFd rest :=
  List.nodup_cons

theorem absDict_set (d : Dict) (k : Key) (v : Val) :
    absDict (d.set k v) = (absDict d).upd k.norm (some v) := by
  induction d with
  | nil => rw [set_nil, absDict_cons]
  | cons p rest ih =>
    obtain ⟨k', v'⟩ := p
    rw [set_cons]
    split
    · rw [absDict_cons, absDict_cons, ‹k'.norm = k.norm›, AMap.upd_upd]
    · rename_i h
      rw [absDict_cons, ih, absDict_cons, AMap.upd_comm _ h]

theorem absDict_del (d : Dict) (k : Key) : absDict (d.del k) = (absDict d).upd k.norm none := by
  induction d with
  | nil =>
    funext nk
    simp [Dict.del, absDict_nil, AMap.upd]
  | cons p rest ih =>
    obtain ⟨k', v'⟩ := p
    rw [del_cons]
    split
    · rw [ih, absDict_cons, ‹k'.norm = k.norm›, AMap.upd_upd]
    · rename_i h
      rw [absDict_cons, ih, absDict_cons, AMap.upd_comm _ h]

theorem absDict_ofPairs (ps : List (Key × Val)) : absDict (Dict.ofPairs ps) = AMap.ofPairs ps :=
  (List.foldl_hom absDict fun d p => (absDict_set d p.1 p.2).symm).symm

theorem absDict_isSome_iff (d : Dict) (nk : NKey) : (absDict d nk).isSome ↔ nk ∈ keys d := by
  induction d with
  | nil => exact ⟨nofun, nofun⟩
  | cons p rest ih =>
    rw [absDict_cons, AMap.upd, keys, List.map_cons, List.mem_cons, ← keys, ← ih]
    split
    · exact iff_of_true rfl (.inl ‹_›)
    · exact (or_iff_right ‹_›).symm

theorem WFd_set (d : Dict) (k : Key) (v : Val) (h : WFd d) : WFd (d.set k v) := by
  induction d with
  | nil => simp [set_nil, WFd]
  | cons p rest ih =>
    obtain ⟨k', v'⟩ := p
    rw [set_cons]
    split
    · exact h
    · rw [WFd_cons] at h ⊢
      -- whether `k'` is stored is read off `absDict`, and the assignment is to another key
      rw [← absDict_isSome_iff, absDict_set, AMap.upd, if_neg ‹_›, absDict_isSome_iff]
      exact ⟨h.1, ih h.2⟩

theorem WFd_del (d : Dict) (k : Key) (h : WFd d) : WFd (d.del k) :=
  List.Nodup.sublist (List.Sublist.map _ List.filter_sublist) h

theorem WFd_ofPairs (ps : List (Key × Val)) : WFd (Dict.ofPairs ps) :=
  List.foldlRecOn ps _ (by simp [WFd]) fun d hd p _ => WFd_set d p.1 p.2 hd

theorem mem_iff_absDict (d : Dict) (h : WFd d) (nk : NKey) (v : Val) :
    (∃ k', (k', v) ∈ d ∧ k'.norm = nk) ↔ absDict d nk = some v := by
  induction d with
  | nil => simp [absDict_nil]
  | cons p rest ih =>
    obtain ⟨k0, v0⟩ := p
    obtain ⟨hk0, hrest⟩ := WFd_cons.mp h
    rw [absDict_cons, AMap.upd]
    split
    · -- `nk` is the key of the head: no pair of `rest` has it (`hk0`), so the value is the head's
      rename_i e
      rw [Option.some.injEq]
      constructor
      · rintro ⟨k', hm, hk⟩
        rcases List.mem_cons.mp hm with he | hm'
        · exact (Prod.mk.inj he).2.symm
        · have : k0.norm ∈ keys rest := hk.trans e ▸ List.mem_map.mpr ⟨(k', v), hm', rfl⟩
          exact absurd this hk0
      · intro hv
        exact ⟨k0, hv ▸ List.mem_cons_self, e.symm⟩
    · -- another key: the head is none of the pairs asked for
      rename_i e
      rw [← ih hrest]
      refine exists_congr fun k' => and_congr_left fun hk => ?_
      rw [List.mem_cons]
      exact or_iff_right fun he => e (hk ▸ congrArg (·.1.norm) he)

theorem vals_absDict {P : Val → Prop} {d : Dict} (hd : ∀ p ∈ d, P p.2) {nk : NKey} {v : Val}
    (h : absDict d nk = some v) : P v := by
  unfold absDict at h
  split at h
  · cases h
    exact hd _ (List.mem_of_find?_eq_some ‹_›)
  · cases h

theorem vals_set {P : Val → Prop} {d : Dict} (hd : ∀ p ∈ d, P p.2) (k : Key) {v : Val} (hv : P v) :
    ∀ p ∈ d.set k v, P p.2 := by
  induction d with
  | nil => simpa [set_nil] using hv
  | cons q rest ih =>
    obtain ⟨h1, h2⟩ := List.forall_mem_cons.mp hd
    rw [set_cons]
    split
    · exact List.forall_mem_cons.mpr ⟨hv, h2⟩
    · exact List.forall_mem_cons.mpr ⟨h1, ih h2⟩

theorem vals_ofPairs_lits (n : Nat) (ps : List (Key × String)) :
    ∀ p ∈ Dict.ofPairs (lits ps), valOK n p.2 :=
  List.foldlRecOn (motive := fun d : Dict => ∀ p ∈ d, valOK n p.2) (lits ps) _ (by simp) fun d hd p hp =>
    vals_set hd p.1 <| by
      obtain ⟨q, _, rfl⟩ := List.mem_map.mp hp
      trivial

theorem valOK_mono {n m : Nat} {v : Val} (h : valOK n v) (hle : n ≤ m) : valOK m v := by
  cases v with
  | data w => trivial
  | ref r => exact Nat.lt_of_lt_of_le h hle

/-! ## the heap -/

theorem abs_vars (s : State) : (abs s).vars = s.vars := rfl

theorem abs_heap_length (s : State) : (abs s).heap.length = s.heap.length := by simp [abs]

theorem deref_abs (s : State) (x : String) :
    (abs s).deref x =
      match s.deref x with
      | some (r, d) => some (r, absDict d)
      | none => none := by
  unfold AState.deref State.deref
  rw [abs_vars]
  cases s.vars.lookup x with
  | none => rfl
  | some v =>
    cases v with
    | data w => rfl
    | ref r =>
      simp only [abs, List.getElem?_map]
      cases s.heap[r]? <;> rfl

theorem protos_abs (s : State) (f : String) :
    (abs s).protos.lookup f = (s.protos.lookup f).map absDict :=
  lookup_map_val (fun _ => absDict) s.protos f

theorem deref_some {s : State} {x : String} {r : Nat} {d : Dict} (h : s.deref x = some (r, d)) :
    s.vars.lookup x = some (.ref r) ∧ s.heap[r]? = some d := by
  unfold State.deref at h
  split at h
  · split at h
    · cases h
      exact ⟨‹_›, ‹_›⟩
    · cases h
  · cases h

theorem deref_lt {s : State} {x : String} {r : Nat} {d : Dict} (h : s.deref x = some (r, d)) :
    r < s.heap.length :=
  (List.getElem?_eq_some_iff.mp (deref_some h).2).1

theorem deref_mem {s : State} {x : String} {r : Nat} {d : Dict} (h : s.deref x = some (r, d)) :
    d ∈ s.heap :=
  List.mem_of_getElem? (deref_some h).2

/-! ## the invariant -/

theorem inv_init : Inv init :=
  ⟨nofun, nofun, nofun, nofun, nofun⟩

theorem bindOpt_ok {n : Nat} {vars : List (String × Val)} (into : Option String) {v : Val}
    (hv : ∀ p ∈ vars, valOK n p.2) (h : valOK n v) : ∀ p ∈ bindOpt vars into v, valOK n p.2 := by
  cases into with
  | none => exact hv
  | some x => exact List.forall_mem_cons.mpr ⟨h, hv⟩

theorem inv_bind {s : State} (h : Inv s) (into : Option String) {v : Val}
    (hv : valOK s.heap.length v) : Inv { s with vars := bindOpt s.vars into v } :=
  ⟨h.heapWF, h.protoWF, bindOpt_ok into h.varsOK hv, h.heapOK, h.protoOK⟩

theorem inv_alloc {s : State} (h : Inv s) (x : String) {d : Dict} (hwf : WFd d)
    (hv : ∀ p ∈ d, valOK (s.heap.length + 1) p.2) :
    Inv { s with heap := s.heap ++ [d], vars := (x, .ref s.heap.length) :: s.vars } := by
  refine ⟨?_, h.protoWF, ?_, ?_, h.protoOK⟩
  · exact List.forall_mem_append.mpr ⟨h.heapWF, List.forall_mem_singleton.mpr hwf⟩
  · simp only [List.length_append, List.length_singleton]
    exact List.forall_mem_cons.mpr
      ⟨Nat.lt_succ_self _, fun p hp => valOK_mono (h.varsOK p hp) (Nat.le_succ _)⟩
  · simp only [List.length_append, List.length_singleton]
    exact List.forall_mem_append.mpr
      ⟨fun d' hd' p hp => valOK_mono (h.heapOK d' hd' p hp) (Nat.le_succ _),
        List.forall_mem_singleton.mpr hv⟩

theorem inv_update {s : State} (h : Inv s) {x : String} {r : Nat} {d d' : Dict}
    (hd : s.deref x = some (r, d)) (hwf : WFd d → WFd d')
    (hv : (∀ p ∈ d, valOK s.heap.length p.2) → ∀ p ∈ d', valOK s.heap.length p.2)
    (into : Option String) :
    Inv { s with heap := s.heap.set r d', vars := bindOpt s.vars into (.ref r) } := by
  have hm := deref_mem hd
  refine ⟨?_, h.protoWF, ?_, ?_, h.protoOK⟩
  · exact fun e he => (List.mem_or_eq_of_mem_set he).elim (h.heapWF e) (· ▸ hwf (h.heapWF d hm))
  · simp only [List.length_set]
    exact bindOpt_ok into h.varsOK (deref_lt hd)
  · simp only [List.length_set]
    exact fun e he => (List.mem_or_eq_of_mem_set he).elim (h.heapOK e) (· ▸ hv (h.heapOK d hm))

theorem resolve_ok {s : State} (h : Inv s) {a : Arg} {v : Val} (hv : resolve s.vars a = some v) :
    valOK s.heap.length v := by
  cases a with
  | data w =>
    cases hv
    trivial
  | var x => exact h.varsOK _ (mem_of_lookup hv)

/-! ## one step -/

/-- an operation that leaves the state alone: the specification's step must not move either, and
    must allow the output -/
theorem same_ok {s : State} {a : AState} {P : Prop} (ha : abs s = a) (hp : P) :
    abs s = a ∧ (Inv s → P ∧ Inv s) :=
  ⟨ha, fun h => ⟨hp, h⟩⟩

/-- the invariant is what makes `size` count distinct keys and `each` visit every binding once -/
theorem step_sim (s : State) (op : Op) :
    abs (step s op).1 = specStep (abs s) op ∧
      (Inv s → specOut (abs s) op (step s op).2 ∧ Inv (step s op).1) := by
  cases op with
  | lit x ps =>
    exact ⟨by simp [step, specStep, abs, absDict_ofPairs], fun h =>
      ⟨by simp [step, specOut, abs_heap_length],
        inv_alloc h x (WFd_ofPairs _) (vals_ofPairs_lits _ ps)⟩⟩
  | deffn f ps =>
    exact ⟨by simp [step, specStep, abs, absDict_ofPairs], fun h =>
      ⟨rfl, h.heapWF, List.forall_mem_cons.mpr ⟨WFd_ofPairs _, h.protoWF⟩, h.varsOK, h.heapOK,
        List.forall_mem_cons.mpr ⟨vals_ofPairs_lits 0 ps, h.protoOK⟩⟩⟩
  | call x f =>
    simp only [step, specStep, specOut, protos_abs]
    cases hl : s.protos.lookup f with
    | none => exact same_ok rfl rfl
    | some p =>
      have hm := mem_of_lookup hl
      exact ⟨by simp [abs], fun h =>
        ⟨by simp [abs_heap_length], inv_alloc h x (h.protoWF _ hm)
          fun q hq => valOK_mono (h.protoOK _ hm q hq) (Nat.zero_le _)⟩⟩
  | alias x d =>
    simp only [step, specStep, specOut, abs_vars]
    cases hl : s.vars.lookup d with
    | none => exact same_ok rfl rfl
    | some v => exact ⟨rfl, fun h => ⟨rfl, inv_bind h (some x) (h.varsOK _ (mem_of_lookup hl))⟩⟩
  | join l d k a into =>
    simp only [step, specStep, specOut, deref_abs, abs_vars]
    cases hd : s.deref d with
    | none => exact same_ok rfl rfl
    | some rd =>
      cases hv : resolve s.vars a with
      | none => exact same_ok rfl rfl
      | some v =>
        exact ⟨by simp [abs, List.map_set, absDict_set], fun h =>
          ⟨rfl, inv_update h hd (WFd_set _ k v) (vals_set · k (resolve_ok h hv)) into⟩⟩
  | remove d k into =>
    simp only [step, specStep, specOut, deref_abs, abs_vars]
    cases hd : s.deref d with
    | none => exact same_ok rfl rfl
    | some rd =>
      exact ⟨by simp [abs, List.map_set, absDict_del], fun h =>
        ⟨rfl, inv_update h hd (WFd_del _ k) (fun hok p hp => hok p (List.mem_filter.mp hp).1) into⟩⟩
  | find d k into =>
    simp only [step, specStep, specOut, deref_abs, abs_vars, get_eq_absDict]
    cases hd : s.deref d with
    | none => exact same_ok rfl rfl
    | some rd =>
      dsimp only
      cases hg : absDict rd.2 k.norm with
      | none => cases into <;> exact same_ok rfl rfl
      | some v =>
        exact ⟨rfl, fun h => ⟨rfl, inv_bind h into (vals_absDict (h.heapOK _ (deref_mem hd)) hg)⟩⟩
  | index d k into =>
    simp only [step, specStep, specOut, deref_abs, abs_vars, get_eq_absDict]
    cases hd : s.deref d with
    | none => exact same_ok rfl rfl
    | some rd =>
      cases k with
      | int n =>
        dsimp only
        cases hg : absDict rd.2 (Key.int n).norm with
        | none => exact same_ok rfl rfl
        | some v =>
          exact ⟨rfl, fun h => ⟨rfl, inv_bind h into (vals_absDict (h.heapOK _ (deref_mem hd)) hg)⟩⟩
      | _ => exact ⟨rfl, fun h => ⟨rfl, inv_bind h into (deref_lt hd)⟩⟩
  | indexMany d ks =>
    simp only [step, specStep, specOut, deref_abs, funext (get_eq_absDict _)]
    cases s.deref d with
    | none => exact same_ok rfl rfl
    | some rd =>
      dsimp only
      cases List.mapM (fun k => absDict rd.2 k.norm) ks <;> exact same_ok rfl rfl
  | joinBad d k =>
    simp only [step, specStep, specOut, deref_abs]
    cases s.deref d <;> exact same_ok rfl rfl
  | size d =>
    simp only [step, specStep, specOut, deref_abs]
    cases hd : s.deref d with
    | none => exact same_ok rfl rfl
    | some rd =>
      exact ⟨rfl, fun h => ⟨⟨keys rd.2, h.heapWF _ (deref_mem hd),
        fun k => (absDict_isSome_iff rd.2 k).symm, by simp [keys]⟩, h⟩⟩
  | each d =>
    simp only [step, specStep, specOut, deref_abs]
    cases hd : s.deref d with
    | none => exact same_ok rfl rfl
    | some rd =>
      have hwf (h : Inv s) := h.heapWF _ (deref_mem hd)
      exact ⟨rfl, fun h => ⟨⟨rd.2, rfl, hwf h, mem_iff_absDict rd.2 (hwf h)⟩, h⟩⟩

theorem abs_step (s : State) (op : Op) : abs (step s op).1 = specStep (abs s) op :=
  (step_sim s op).1

theorem out_ok (s : State) (h : Inv s) (op : Op) : specOut (abs s) op (step s op).2 :=
  ((step_sim s op).2 h).1

theorem inv_step (s : State) (h : Inv s) (op : Op) : Inv (step s op).1 :=
  ((step_sim s op).2 h).2

/-! ## `step` on resolved operands; a lookup after an update -/

theorem step_join {s : State} {x : String} {a : Arg} {r : Nat} {dict : Dict} {v : Val}
    (hx : s.deref x = some (r, dict)) (hv : resolve s.vars a = some v) (left : Bool) (k : Key)
    (into : Option String) :
    step s (.join left x k a into) =
      ({ s with heap := s.heap.set r (dict.set k v), vars := bindOpt s.vars into (.ref r) },
        .val (.ref r)) := by
  simp only [step, hx, hv]

theorem step_remove {s : State} {x : String} {r : Nat} {dict : Dict}
    (hx : s.deref x = some (r, dict)) (k : Key) (into : Option String) :
    step s (.remove x k into) =
      ({ s with heap := s.heap.set r (dict.del k), vars := bindOpt s.vars into (.ref r) },
        .val (.ref r)) := by
  simp only [step, hx]

theorem step_call {s : State} {f : String} {p : Dict} (hp : s.protos.lookup f = some p) (x : String) :
    step s (.call x f) =
      ({ s with heap := s.heap ++ [p], vars := (x, .ref s.heap.length) :: s.vars },
        .val (.ref s.heap.length)) := by
  simp only [step, hp]

/-- the result of `d?k` -/
def found : Option Val → Out
  | some v => .val v
  | none => .undef

@[simp] theorem found_some (v : Val) : found (some v) = .val v := rfl

@[simp] theorem found_none : found none = .undef := rfl

theorem find_out (s : State) (y : String) (k : Key) :
    (step s (.find y k none)).2 =
      match s.deref y with
      | none => .bad
      | some (_, d) => found (absDict d k.norm) := by
  simp only [step]
  cases s.deref y with
  | none => rfl
  | some rd =>
    simp only [get_eq_absDict]
    cases absDict rd.2 k.norm <;> rfl

theorem find_after_update {s : State} {x : String} {r : Nat} {d0 : Dict}
    (hx : s.deref x = some (r, d0)) (d' : Dict) (y : String) (k : Key) :
    (step { s with heap := s.heap.set r d' } (.find y k none)).2 =
      if s.vars.lookup y = some (.ref r) then found (absDict d' k.norm)
      else (step s (.find y k none)).2 := by
  have hlt := deref_lt hx
  rw [find_out, find_out]
  simp only [State.deref]
  cases hy : s.vars.lookup y with
  | none => simp
  | some w =>
    cases w with
    | data t => simp
    | ref r' =>
      by_cases e : r' = r
      · simp [e, hlt]
      · simp [e, List.getElem?_set_ne (Ne.symm e)]

/-! ## histories -/

theorem run_sim (s : State) (h : Inv s) (ops : List Op) :
    abs (run s ops).1 = specRun (abs s) ops ∧ specAccepts (abs s) ops (run s ops).2 ∧
      Inv (run s ops).1 := by
  induction ops generalizing s with
  | nil => exact ⟨rfl, trivial, h⟩
  | cons op ops ih =>
    have ih' := ih (step s op).1 (inv_step s h op)
    rw [abs_step] at ih'
    exact ⟨ih'.1, ⟨out_ok s h op, ih'.2.1⟩, ih'.2.2⟩

/-- every state the machine can reach satisfies the invariant (no dictionary holds two equal
    keys, every reference points into the heap) -/
theorem reachable_inv (ops : List Op) : Inv (run init ops).1 := (run_sim init inv_init ops).2.2

/-- **dict_refines_map** — for EVERY operation sequence (literal, function definition, call,
    join from either side, remove, find, index, size, each, alias; any keys, any values,
    any length) the dictionary heap refines the heap of finite maps: the final abstract
    state is the specification's, and every result along the way is one the specification
    allows in the state it was produced in (lookup after add / overwrite / remove, other
    keys unaffected, missing key → :undefined, `#d` = number of distinct keys, each = every
    binding exactly once). -/
theorem dict_refines_map (ops : List Op) :
    abs (run init ops).1 = specRun (abs init) ops ∧
    specAccepts (abs init) ops (run init ops).2 :=
  ⟨(run_sim init inv_init ops).1, (run_sim init inv_init ops).2.1⟩

/-- **alias_sees_updates** — whatever two variables hold the same dictionary (however the
    alias arose), an entry added or overwritten through one is what a lookup through the
    other returns, for every spelling of the key that Python compares equal. -/
theorem alias_sees_updates (s : State) (x y : String) (r : Nat) (dict : Dict)
    (hx : s.deref x = some (r, dict)) (hy : s.vars.lookup y = some (.ref r))
    (k k' : Key) (hk : k'.norm = k.norm) (a : Arg) (v : Val) (hv : resolve s.vars a = some v)
    (left : Bool) :
    (step (step s (.join left x k a none)).1 (.find y k' none)).2 = .val v := by
  rw [step_join hx hv left k none]
  simp [bindOpt, find_after_update hx, hy, absDict_set, AMap.upd, hk]

/-- … and an entry removed through one alias is missing through the other -/
theorem alias_sees_removal (s : State) (x y : String) (r : Nat) (dict : Dict)
    (hx : s.deref x = some (r, dict)) (hy : s.vars.lookup y = some (.ref r))
    (k k' : Key) (hk : k'.norm = k.norm) :
    (step (step s (.remove x k none)).1 (.find y k' none)).2 = .undef := by
  rw [step_remove hx k none]
  simp [bindOpt, find_after_update hx, hy, absDict_del, AMap.upd, hk]

/-- **other keys are unaffected**: after a join or a remove through `x`, a lookup of a different
    key through ANY variable (an alias of `x` or not) returns what it returned before -/
theorem other_keys_unaffected (s : State) (x y : String) (r : Nat) (dict : Dict)
    (hx : s.deref x = some (r, dict)) (k k' : Key) (hk : k'.norm ≠ k.norm)
    (a : Arg) (v : Val) (hv : resolve s.vars a = some v) (left : Bool) :
    (step (step s (.join left x k a none)).1 (.find y k' none)).2 = (step s (.find y k' none)).2 ∧
    (step (step s (.remove x k none)).1 (.find y k' none)).2 = (step s (.find y k' none)).2 := by
  rw [step_join hx hv left k none, step_remove hx k none]
  simp only [bindOpt, find_after_update hx]
  by_cases hy : s.vars.lookup y = some (.ref r)
  · simp [hy, find_out, State.deref, (deref_some hx).2, absDict_set, absDict_del, AMap.upd, hk]
  · simp [hy]

/-- the same key in a different dictionary is unaffected too -/
theorem other_dicts_unaffected (s : State) (x y : String) (r r' : Nat) (dict : Dict)
    (hx : s.deref x = some (r, dict)) (hy : s.vars.lookup y = some (.ref r')) (hne : r ≠ r')
    (k k' : Key) (a : Arg) (v : Val) (hv : resolve s.vars a = some v) (left : Bool) :
    (step (step s (.join left x k a none)).1 (.find y k' none)).2 = (step s (.find y k' none)).2 ∧
    (step (step s (.remove x k none)).1 (.find y k' none)).2 = (step s (.find y k' none)).2 := by
  rw [step_join hx hv left k none, step_remove hx k none]
  simp [bindOpt, find_after_update hx, hy, Ne.symm hne]

/-- **a missing key yields :undefined** -/
theorem missing_key_undefined (s : State) (d : String) (r : Nat) (dict : Dict)
    (hd : s.deref d = some (r, dict)) (k : Key) (hk : ∀ p ∈ dict, p.1.norm ≠ k.norm) :
    (step s (.find d k none)).2 = .undef := by
  have : absDict dict k.norm = none := Option.not_isSome_iff_eq_none.mp fun hs => by
    obtain ⟨p, hp, he⟩ := List.mem_map.mp ((absDict_isSome_iff dict _).mp hs)
    exact hk p hp he
  simp [step, hd, get_eq_absDict, this]

/-- "the number of distinct keys" is well defined -/
theorem enum_length_unique (m : AMap) (ks ks' : List NKey) (h : ks.Nodup) (h' : ks'.Nodup)
    (hm : ∀ k, k ∈ ks ↔ (m k).isSome) (hm' : ∀ k, k ∈ ks' ↔ (m k).isSome) :
    ks.length = ks'.length :=
  List.Perm.length_eq ((List.perm_ext_iff_of_nodup h h').mpr fun k => (hm k).trans (hm' k).symm)

/-- **#d is the number of distinct keys**, in every reachable state -/
theorem size_counts_distinct_keys (ops : List Op) (d : String) (r : Nat) (dict : Dict)
    (hd : (run init ops).1.deref d = some (r, dict)) :
    ∀ ks : List NKey, ks.Nodup → (∀ k, k ∈ ks ↔ (absDict dict k).isSome) →
      (step (run init ops).1 (.size d)).2 = .num ks.length := by
  intro ks hn hm
  -- the refinement allows only the length of some duplicate-free enumeration of the bound keys
  have := out_ok _ (reachable_inv ops) (.size d)
  simp only [specOut, deref_abs, hd] at this
  obtain ⟨ks0, hn0, hm0, ho⟩ := this
  rw [ho, enum_length_unique _ ks0 ks hn0 hn hm0 hm]

/-- **f'd visits every key/value pair exactly once**, in every reachable state: the list of
    pairs the function is applied to has no two equal keys and contains exactly the
    bindings of the map -/
theorem each_visits_every_pair_once (ops : List Op) (d : String) (r : Nat) (dict : Dict)
    (hd : (run init ops).1.deref d = some (r, dict)) :
    ∃ ps, (step (run init ops).1 (.each d)).2 = .pairs ps ∧
      (ps.map (fun p => p.1.norm)).Nodup ∧
      ∀ k v, (∃ k', (k', v) ∈ ps ∧ k'.norm = k) ↔ absDict dict k = some v := by
  simpa only [specOut, deref_abs, hd] using out_ok _ (reachable_inv ops) (.each d)

/-- no operation other than a function definition touches a parsed literal -/
theorem protos_stable (s : State) (op : Op) (h : ∀ f ps, op ≠ .deffn f ps) :
    (step s op).1.protos = s.protos := by
  cases op with
  | deffn f ps => exact absurd rfl (h f ps)
  | _ =>
    -- every other branch of `step` returns `s` itself or `{ s with heap := _, vars := _ }`
    simp only [step]
    repeat' split
    all_goals rfl

/-- nothing held the new cell's reference before: `Inv` keeps every reference held by a variable
    or a dictionary below `heap.length` -/
theorem alloc_fresh (s : State) (h : Inv s) (x : String) (p : Dict) :
    let s1 : State := { s with heap := s.heap ++ [p], vars := (x, .ref s.heap.length) :: s.vars }
    s1.deref x = some (s.heap.length, p) ∧
    (∀ q ∈ s.vars, q.2 ≠ .ref s.heap.length) ∧
    (∀ d ∈ s.heap, ∀ q ∈ d, q.2 ≠ .ref s.heap.length) ∧
    (∀ r', r' < s.heap.length → s1.heap[r']? = s.heap[r']?) :=
  ⟨by simp [State.deref],
   fun q hq e => Nat.lt_irrefl _ (show valOK _ (.ref _) from e ▸ h.varsOK q hq),
   fun d hd q hq e => Nat.lt_irrefl _ (show valOK _ (.ref _) from e ▸ h.heapOK d hd q hq),
   fun r' hr' => by simp [List.getElem?_append, hr']⟩

/-- **literal_is_fresh** — every evaluation of a dictionary literal (at top level or inside
    a function called again) yields a NEW dictionary: its reference is one that nothing in
    the earlier state holds (not a variable, not a value of any dictionary), it starts out
    as the parsed literal, and all earlier dictionaries are left as they were. -/
theorem literal_is_fresh (s : State) (h : Inv s) (x f : String) (p : Dict)
    (hp : s.protos.lookup f = some p) :
    let s1 := (step s (.call x f)).1
    let r := s.heap.length
    (step s (.call x f)).2 = .val (.ref r) ∧
    s1.deref x = some (r, p) ∧
    (∀ q ∈ s.vars, q.2 ≠ .ref r) ∧
    (∀ d ∈ s.heap, ∀ q ∈ d, q.2 ≠ .ref r) ∧
    (∀ r', r' < r → s1.heap[r']? = s.heap[r']?) ∧
    s1.protos = s.protos := by
  rw [step_call hp x]
  obtain ⟨hd, hv, hh, hr⟩ := alloc_fresh s h x p
  exact ⟨rfl, hd, hv, hh, hr, rfl⟩

/-- the same for the literal written at top level -/
theorem toplevel_literal_is_fresh (s : State) (h : Inv s) (x : String) (ps : List (Key × String)) :
    let s1 := (step s (.lit x ps)).1
    let r := s.heap.length
    s1.deref x = some (r, Dict.ofPairs (lits ps)) ∧
    (∀ q ∈ s.vars, q.2 ≠ .ref r) ∧
    (∀ d ∈ s.heap, ∀ q ∈ d, q.2 ≠ .ref r) ∧
    (∀ r', r' < r → s1.heap[r']? = s.heap[r']?) :=
  alloc_fresh s h x _

/-- **two evaluations of one literal have independent histories**: call the function twice,
    update the first result any way you like (add, overwrite, remove) — the second result
    still reads as the literal, and a third evaluation still yields the literal. -/
theorem fresh_literals_independent (s : State) (x y f : String) (hxy : x ≠ y) (p : Dict)
    (hp : s.protos.lookup f = some p) (k k' : Key) (w : String) (left : Bool) :
    let s2 := (step (step s (.call x f)).1 (.call y f)).1
    let s3 := (step s2 (.join left x k (.data w) none)).1
    let s4 := (step s2 (.remove x k none)).1
    (step s3 (.find y k' none)).2 = (step s2 (.find y k' none)).2 ∧
    (step s4 (.find y k' none)).2 = (step s2 (.find y k' none)).2 ∧
    (step s2 (.find y k' none)).2 = (match p.get k' with | some v => .val v | none => .undef) ∧
    (step s3 (.call x f)).1.deref x = some (s.heap.length + 2, p) := by
  -- all that matters of the state after the two calls: `x` and `y` hold the last two cells
  obtain ⟨s2, hs2, hx2, hy2, hp2, hl2⟩ : ∃ s2, (step (step s (.call x f)).1 (.call y f)).1 = s2 ∧
      s2.deref x = some (s.heap.length, p) ∧ s2.deref y = some (s.heap.length + 1, p) ∧
      s2.protos.lookup f = some p ∧ s2.heap.length = s.heap.length + 2 := by
    have hxy' : (x == y) = false := by simpa using hxy
    exact ⟨_, rfl, by simp [step, hp, State.deref, List.lookup_cons, hxy']⟩
  have hfr := other_dicts_unaffected _ x y _ _ p hx2 (deref_some hy2).1
    (Nat.ne_of_lt (Nat.lt_succ_self _)) k k' (.data w) (.data w) rfl left
  dsimp only
  rw [hs2]
  refine ⟨hfr.1, hfr.2, ?_, ?_⟩
  · rw [find_out, hy2, get_eq_absDict]
    rfl
  · rw [step_join hx2 (a := .data w) rfl left k none]
    simp [step, hp2, State.deref, hl2]

/-! ## an operation that raises; Each that overwrites what it visits -/

/-- **an operation that raises leaves every dictionary as it was**: the malformed add
    `d,[k]` (IndexError before the assignment) changes nothing at all -/
theorem failed_join_changes_nothing (s : State) (d : String) (k : Key) :
    (step s (.joinBad d k)).1 = s := by
  simp only [step]
  cases s.deref d <;> rfl

theorem set_self (d : Dict) (h : WFd d) (k : Key) (v : Val) (hm : (k, v) ∈ d) : d.set k v = d := by
  induction d with
  | nil => cases hm
  | cons p rest ih =>
    obtain ⟨k', v'⟩ := p
    obtain ⟨hk', hrest⟩ := WFd_cons.mp h
    rw [set_cons]
    rcases List.mem_cons.mp hm with e | hm'
    · cases e
      simp
    · have hne : ¬ k'.norm = k.norm := fun e => hk' (e ▸ List.mem_map.mpr ⟨(k, v), hm', rfl⟩)
      rw [if_neg hne, ih hrest hm']

/-- **Each with a function that overwrites the visited entries in place** (`{d,x;x}'d`: every
    pair is joined back under its own key): assigning every pair of `d` to `d` in turn gives `d`
    again (each assignment is `set_self`), which is what lets this program be run on the machine
    as `Op.each`, an operation that changes no dictionary. -/
theorem each_selfupdate_is_identity (d : Dict) (h : WFd d) :
    d.foldl (fun acc p => acc.set p.1 p.2) d = d :=
  List.foldlRecOn (motive := (· = d)) d _ rfl fun _ hacc p hp => hacc ▸ set_self d h p.1 p.2 hp

/-! ## the pinned tree's key comparison (recorded finding) -/

/-- Before the `fix:` commit a stored character compares equal to a probing symbol with the
    same text, but a stored symbol does not compare equal to a probing character: the
    number of entries depends on the order of two joins, and a symbol finds a character's
    entry.  (Replayed on the real code by the check as the known-finding witness.) -/
theorem pinned_char_symbol_order_dependent :
    (ofPairsBy keyEqPinned [(.chr "61", .data "i1"), (.sym "61", .data "i2")]).length = 1 ∧
    (ofPairsBy keyEqPinned [(.sym "61", .data "i2"), (.chr "61", .data "i1")]).length = 2 ∧
    getBy keyEqPinned [(.chr "61", .data "i1")] (.sym "61") = some (.data "i1") ∧
    getBy keyEqPinned [(.sym "61", .data "i1")] (.chr "61") = none := by decide

/-- hence no notion of "the same key" whatsoever explains the pinned comparison … -/
theorem pinned_keyeq_is_no_key_identity :
    ¬ ∃ (α : Type) (ident : Key → α), ∀ a b, keyEqPinned a b = true ↔ ident a = ident b := by
  rintro ⟨α, ident, h⟩
  have h1 := (h (.chr "61") (.sym "61")).mp (by decide)
  have h2 := (h (.sym "61") (.chr "61")).mpr h1.symm
  revert h2
  decide

/-- … while the repaired comparison is exactly equality of key identities -/
theorem keyEq_is_key_identity (a b : Key) : keyEq a b = true ↔ a.norm = b.norm := by
  simp [keyEq]

/-! ## non-vacuity -/

/-- a history with every kind of key, an alias, an overwrite through the alias, a removal,
    a function evaluated twice and an update of one of the results -/
def demoOps : List Op :=
  [ .lit "a" [(.int 1, "i2"), (.chr "61", "i3"), (.sym "61", "i4"), (.real 5 1, "s6162")]
  , .alias "b" "a"
  , .join true "b" (.str "61") (.data "i9") none        -- overwrites the character key 0ca
  , .find "a" (.chr "61") none
  , .join false "a" (.real 1 0) (.var "a") (some "c")   -- key 1.0 = key 1; value: the dictionary itself
  , .size "c"
  , .remove "a" (.sym "61") none
  , .find "b" (.sym "61") none
  , .deffn "f" [(.int 1, "i1")]
  , .call "x" "f"
  , .call "y" "f"
  , .join true "x" (.int 1) (.data "i7") none
  , .find "y" (.int 1) none
  , .each "a" ]

example : (run init demoOps).2 =
    [ .val (.ref 0), .val (.ref 0), .val (.ref 0), .val (.data "i9"), .val (.ref 0), .num 4,
      .val (.ref 0), .undef, .fn, .val (.ref 1), .val (.ref 2), .val (.ref 1), .val (.data "i1"),
      .pairs [(.int 1, .ref 0), (.chr "61", .data "i9"), (.real 5 1, .data "s6162")] ] :=
  rfl

example : specAccepts (abs init) demoOps (run init demoOps).2 := (dict_refines_map demoOps).2

def demoDict0 : Dict :=
  Dict.ofPairs (lits [(.int 1, "i2"), (.chr "61", "i3"), (.sym "61", "i4"), (.real 5 1, "s6162")])

/-- the hypotheses of `alias_sees_updates` hold in a reachable state -/
example :
    let s := (run init (demoOps.take 2)).1
    s.deref "a" = some (0, demoDict0) ∧ s.vars.lookup "b" = some (.ref 0) :=
  ⟨rfl, rfl⟩

example :
    (step (step (run init (demoOps.take 2)).1 (.join true "a" (.str "61") (.data "i9") none)).1
      (.find "b" (.chr "61") none)).2 = .val (.data "i9") :=
  alias_sees_updates (run init (demoOps.take 2)).1 "a" "b" 0 demoDict0 rfl rfl
    (.str "61") (.chr "61") rfl (.data "i9") (.data "i9") rfl true

/-- the hypotheses of `literal_is_fresh` / `fresh_literals_independent` hold in a reachable state -/
example : (run init (demoOps.take 9)).1.protos.lookup "f" = some [(.int 1, .data "i1")] := rfl

example : Inv (run init (demoOps.take 9)).1 := reachable_inv _

/-- `size_counts_distinct_keys` / `each_visits_every_pair_once`: a reachable dictionary with
    three entries -/
example : ∃ r dict, (run init demoOps).1.deref "a" = some (r, dict) ∧ dict.length = 3 :=
  ⟨0, [(.int 1, .ref 0), (.chr "61", .data "i9"), (.real 5 1, .data "s6162")], rfl, rfl⟩

end Klong.C10
