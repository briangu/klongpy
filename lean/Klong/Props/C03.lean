/-
  C03 — frame discipline, locals, projections, conditionals, substitution.

  The evaluation monad `M` is read in two ways, each with a rule per monad operation. `Pres m`: running `m`
  applies a list of assignments to the context and extends the log; every piece of the evaluator is `Pres`.
  A write under a pushed frame stays in the frame, or reaches the context below unchanged and is to a name
  the frame does not have; the results on calls and locals are instances of this for `framed`.
  `Returns m s r`: `m`, run in `s`, returns `r` and leaves `s` alone; on such runs `M` is `Except`, and `sim`
  takes a body under its frame and the substituted body through the same rules side by side.
  Projections: `prepare` along a chain of one and of two projections with arbitrary layers; at the layers
  written for a fill these give the results on fills by position.
-/
import Klong.Model.C03
namespace Klong.C03
open M

/-! ## scopes and writes -/

theorem KV.get_put (d : KV) (k k' : String) (v : Expr) :
    (KV.put d k v).get k' = if k' = k then some v else d.get k' := by
  by_cases h : k' = k
  all_goals fun_induction KV.put d k v <;> simp_all [KV.get]

theorem KV.has_put (d : KV) (k k' : String) (v : Expr) :
    (KV.put d k v).has k' = (decide (k' = k) || d.has k') := by
  simp only [KV.has, KV.get_put]
  split <;> simp [*]

theorem KV.keys_put_of_has (d : KV) (k : String) (v : Expr) (h : d.has k = true) :
    (KV.put d k v).keys = d.keys := by
  fun_induction KV.put d k v <;> simp_all [KV.keys, KV.has, KV.get]

theorem KV.mem_keys_iff (d : KV) (k : String) : k ∈ d.keys ↔ d.has k = true := by
  induction d with
  | nil => simp [KV.keys, KV.has, KV.get]
  | cons p r ih =>
    simp only [KV.keys, KV.has, KV.get, List.map_cons, List.mem_cons] at ih ⊢
    split <;> simp [*]

theorem KV.get_mem {d : KV} {k : String} {e : Expr} (h : d.get k = some e) : (k, e) ∈ d := by
  fun_induction KV.get d k <;> simp_all

theorem KV.keys_zip (ps : List String) (as : List Expr) : KV.keys (ps.zip as) = ps.take as.length := by
  induction ps generalizing as with
  | nil => simp [KV.keys]
  | cons p ps ih => cases as <;> simp_all [KV.keys]

def sig (d : Scope) : List String × Bool := (d.kv.keys, d.ro)

def topHas (s : List Scope) (k : String) : Bool :=
  match s with
  | d :: _ => d.kv.has k
  | [] => false

theorem topHas_iff (s : List Scope) (k : String) :
    topHas s k = true ↔ ∃ p ∈ (s.map sig).head?, k ∈ p.1 := by
  cases s <;> simp [topHas, sig, KV.mem_keys_iff]

theorem putTop_topHas (s : List Scope) (k k' : String) (v : Expr) (h : topHas s k' = true) :
    topHas (putTop s k v) k' = true := by
  cases s with
  | nil => exact h
  | cons d r =>
    rw [topHas] at h
    simp [topHas, putTop, KV.has_put, h]

theorem putTop_get_ne (s : List Scope) (k k' : String) (v : Expr) (hne : k' ≠ k) :
    getScopes (putTop s k v) k' = getScopes s k' := by
  cases s with
  | nil => rfl
  | cons d r => simp [putTop, getScopes, KV.get_put, hne]

theorem setExisting_ok {s : List Scope} {k : String} {v : Expr} {s' : List Scope}
    (h : setExisting s k v = some (.ok s')) :
    s'.map sig = s.map sig ∧ ∀ k', k' ≠ k → getScopes s' k' = getScopes s k' := by
  induction s generalizing s' with
  | nil => cases h
  | cons d r ih =>
    rw [setExisting] at h
    by_cases hk : d.kv.has k = true
    · -- `d` is the first scope that has `k`: it is written, unless it is the read-only one
      rw [if_pos hk] at h
      by_cases hro : d.ro = true
      · rw [if_pos hro] at h
        cases h
      · rw [if_neg hro] at h
        cases h
        exact ⟨by simp [sig, KV.keys_put_of_has _ _ _ hk],
          fun k' hne => by simp [getScopes, KV.get_put, hne]⟩
    · -- `d` is passed over: the write goes on below it
      rw [if_neg hk] at h
      cases hr : setExisting r k v with
      | none => simp [hr] at h
      | some x =>
        cases x with
        | error e => simp [hr] at h
        | ok r' =>
          simp only [hr] at h
          cases h
          obtain ⟨h1, h2⟩ := ih hr
          exact ⟨by simp [h1], fun k' hne => by simp [getScopes, h2 k' hne]⟩

theorem create_ok {c c' : Ctx} {k : String} {v : Expr} (h : c.create k v = .ok c') :
    c' = { c with scopes := putTop c.scopes k v } := by
  unfold Ctx.create at h
  -- arms of `create`: strict mode raises; the top scope is read-only (raises) or written; no scope raises
  split at h
  · cases h
  · split at h
    · split at h <;> cases h
      rfl
    · cases h

theorem set_cases {c c' : Ctx} {k : String} {v : Expr} (h : c.set k v = .ok c') :
    c' = { c with scopes := putTop c.scopes k v } ∨
    reserved k = false ∧
      ∃ s', setExisting c.scopes k v = some (.ok s') ∧ c' = { c with scopes := s' } := by
  unfold Ctx.set at h
  by_cases hres : reserved k = true
  · -- a reserved name is created in the top scope
    rw [if_pos hres] at h
    exact .inl (create_ok h)
  · rw [if_neg hres] at h
    cases hs : setExisting c.scopes k v with
    | none =>
      -- found nowhere: created in the top scope
      rw [hs] at h
      exact .inl (create_ok h)
    | some x =>
      cases x with
      | error e =>
        rw [hs] at h
        cases h
      | ok s' =>
        -- found in a writable scope
        rw [hs] at h
        cases h
        exact .inr ⟨by simpa using hres, s', rfl, rfl⟩

/-- what one write can do to the shape of the context -/
structure Same (c c' : Ctx) : Prop where
  min : c'.minCount = c.minCount
  strict : c'.strict = c.strict
  len : c'.scopes.length = c.scopes.length
  ro : c'.scopes.map (·.ro) = c.scopes.map (·.ro)
  below : c'.scopes.tail.map sig = c.scopes.tail.map sig
  top : ∀ k, topHas c.scopes k = true → topHas c'.scopes k = true

theorem Same.refl (c : Ctx) : Same c c := ⟨rfl, rfl, rfl, rfl, rfl, fun _ h => h⟩

theorem Same.trans {a b c : Ctx} (h1 : Same a b) (h2 : Same b c) : Same a c :=
  ⟨h2.min.trans h1.min, h2.strict.trans h1.strict, h2.len.trans h1.len, h2.ro.trans h1.ro,
   h2.below.trans h1.below, fun k h => h2.top k (h1.top k h)⟩

theorem Same.of_sig {c : Ctx} {s' : List Scope} (h : s'.map sig = c.scopes.map sig) :
    Same c { c with scopes := s' } where
  min := rfl
  strict := rfl
  len := by simpa using congrArg List.length h
  ro := by simpa [sig, Function.comp_def] using congrArg (List.map Prod.snd) h
  below := by simpa [List.map_tail] using congrArg List.tail h
  top k hk := by
    rw [topHas_iff] at hk ⊢
    rwa [h]

theorem setD_spec (c : Ctx) (k : String) (v : Expr) :
    Same c (c.setD k v) ∧ ∀ k', k' ≠ k → (c.setD k v).get k' = c.get k' := by
  unfold Ctx.setD
  cases h : c.set k v with
  | error e => exact ⟨.refl c, fun _ _ => rfl⟩
  | ok c' =>
    rcases set_cases h with rfl | ⟨_, s', hs, rfl⟩
    · refine ⟨⟨rfl, rfl, ?_, ?_, ?_, fun k' => putTop_topHas _ k k' v⟩,
        fun k' => putTop_get_ne _ k k' v⟩
      -- length, read-only flags, scopes below: `putTop` rewrites the head scope in place
      all_goals
        rcases c with ⟨_ | ⟨d, r⟩, m, st⟩ <;> rfl
    · exact ⟨.of_sig (setExisting_ok hs).1, (setExisting_ok hs).2⟩

abbrev Write := String × Expr

def applyWrites (c : Ctx) (ws : List Write) : Ctx := ws.foldl (fun c w => c.setD w.1 w.2) c

theorem applyWrites_nil (c : Ctx) : applyWrites c [] = c := rfl

theorem applyWrites_cons (c : Ctx) (w : Write) (ws : List Write) :
    applyWrites c (w :: ws) = applyWrites (c.setD w.1 w.2) ws := rfl

theorem applyWrites_append (c : Ctx) (a b : List Write) :
    applyWrites c (a ++ b) = applyWrites (applyWrites c a) b := by
  simp [applyWrites, List.foldl_append]

theorem applyWrites_same (c : Ctx) (ws : List Write) : Same c (applyWrites c ws) := by
  induction ws generalizing c with
  | nil => exact Same.refl c
  | cons w ws ih => exact (setD_spec c w.1 w.2).1.trans (ih _)

theorem applyWrites_get {c : Ctx} {ws : List Write} {k : String} (h : ∀ w ∈ ws, w.1 ≠ k) :
    (applyWrites c ws).get k = c.get k := by
  induction ws generalizing c with
  | nil => rfl
  | cons w ws ih =>
    rw [List.forall_mem_cons] at h
    rw [applyWrites_cons, ih h.2, (setD_spec c w.1 w.2).2 k h.1.symm]

/-! ## a frame on top of a context -/

/-- a `KlongContext` is never shallower than its `_min_ctx_count` (it starts one above); under this `pop`
    undoes `push` -/
def WF (c : Ctx) : Prop := c.minCount ≤ c.scopes.length

theorem WF_of_same {c c' : Ctx} (h : Same c c') (hw : WF c) : WF c' := by
  rw [WF, h.min, h.len]
  exact hw

theorem WF_push {c : Ctx} {d : KV} (hw : WF c) : WF (c.push d) := Nat.le_succ_of_le hw

theorem pop_push {c : Ctx} {d : KV} (hw : WF c) : (c.push d).pop = c := by
  have : c.scopes.length + 1 > c.minCount := Nat.lt_succ_of_le hw
  simp [Ctx.pop, Ctx.push, this]

theorem get_push (c : Ctx) (d : KV) (k : String) : (c.push d).get k = (d.get k <|> c.get k) := by
  simp only [Ctx.get, Ctx.push, getScopes]
  cases d.get k <;> rfl

/-- one write under a pushed frame `d`: `c' = c` (the frame took it, or it raised), or it went through to
    `c` — then `k` is no name of `d`, not reserved, and no scope of `c` changes names -/
theorem setD_push (c : Ctx) (d : KV) (k : String) (v : Expr) :
    ∃ d' c', (c.push d).setD k v = c'.push d' ∧
      (c' = c ∨ (c' = c.setD k v ∧ d.has k = false ∧ reserved k = false ∧
                  (c.setD k v).scopes.map sig = c.scopes.map sig)) ∧
      (∀ k', d.has k' = true → d'.has k' = true) := by
  have grow : ∀ k', d.has k' = true → (d.put k v).has k' = true := fun k' hk' => by
    simp [KV.has_put, hk']
  rw [Ctx.setD]
  cases h : (c.push d).set k v with
  | error e => exact ⟨d, c, rfl, .inl rfl, fun _ h => h⟩
  | ok c0 =>
    rcases set_cases h with rfl | ⟨hres, s', hs, rfl⟩
    · -- created in the top scope, which is the frame
      exact ⟨d.put k v, c, rfl, .inl rfl, grow⟩
    · -- found by the search, which looks at the frame first
      simp only [Ctx.push, setExisting, Bool.false_eq_true, if_false] at hs
      by_cases hk : d.has k = true
      · rw [if_pos hk] at hs
        cases hs
        exact ⟨d.put k v, c, rfl, .inl rfl, grow⟩
      · rw [if_neg hk] at hs
        cases hr : setExisting c.scopes k v with
        | none => simp [hr] at hs
        | some x =>
          cases x with
          | error e => simp [hr] at hs
          | ok r' =>
            -- the name lives below the frame: the write passes through
            simp only [hr] at hs
            cases hs
            have hset : c.setD k v = { c with scopes := r' } := by
              simp [Ctx.setD, Ctx.set, hres, hr]
            exact ⟨d, _, rfl,
              .inr ⟨hset.symm, by simpa using hk, hres, hset ▸ (setExisting_ok hr).1⟩, fun _ h => h⟩

/-- the frame absorbs every write to one of its own names, to a reserved name and to an unknown name; the
    others (`ws'`) are applied to the context below as if the frame were not there -/
theorem applyWrites_push (ws : List Write) (c : Ctx) (d : KV) :
    ∃ d' ws', applyWrites (c.push d) ws = (applyWrites c ws').push d' ∧
      (∀ w ∈ ws', d.has w.1 = false ∧ reserved w.1 = false) ∧
      (∀ k, d.has k = true → d'.has k = true) ∧
      (applyWrites c ws').scopes.map sig = c.scopes.map sig := by
  induction ws generalizing c d with
  | nil => exact ⟨d, [], rfl, by simp, fun _ h => h, rfl⟩
  | cons w ws ih =>
    obtain ⟨d1, c1, h1, hc1, hmono⟩ := setD_push c d w.1 w.2
    obtain ⟨d', ws', h2, hws, hmono2, hsig⟩ := ih c1 d1
    rw [applyWrites_cons, h1, h2]
    have hback : ∀ w' ∈ ws', d.has w'.1 = false ∧ reserved w'.1 = false := fun w' hw' =>
      have ⟨a, b⟩ := hws w' hw'
      ⟨Bool.eq_false_iff.mpr fun hd => by simp [hmono _ hd] at a, b⟩
    rcases hc1 with rfl | ⟨rfl, hk, hres, hs1⟩
    · exact ⟨d', ws', rfl, hback, fun k h => hmono2 k (hmono k h), hsig⟩
    · exact ⟨d', w :: ws', rfl, List.forall_mem_cons.mpr ⟨⟨hk, hres⟩, hback⟩,
        fun k h => hmono2 k (hmono k h), by rw [applyWrites_cons, hsig, hs1]⟩

/-! ## the relation every evaluation maintains -/

def Rel (s s' : St) : Prop :=
  (∃ ws, s'.ctx = applyWrites s.ctx ws) ∧ (∃ l, s'.log = s.log ++ l)

theorem Rel.refl (s : St) : Rel s s := ⟨⟨[], rfl⟩, ⟨[], by simp⟩⟩

theorem Rel.trans {a b c : St} (h1 : Rel a b) (h2 : Rel b c) : Rel a c := by
  obtain ⟨⟨w1, e1⟩, ⟨l1, f1⟩⟩ := h1
  obtain ⟨⟨w2, e2⟩, ⟨l2, f2⟩⟩ := h2
  exact ⟨⟨w1 ++ w2, by rw [e2, e1, applyWrites_append]⟩,
    ⟨l1 ++ l2, by rw [f2, f1, List.append_assoc]⟩⟩

theorem Rel.same {s s' : St} (h : Rel s s') : Same s.ctx s'.ctx := by
  obtain ⟨⟨ws, e⟩, _⟩ := h
  exact e ▸ applyWrites_same _ _

theorem Rel.wf {s s' : St} (h : Rel s s') (hw : WF s.ctx) : WF s'.ctx := WF_of_same h.same hw

def Pres {α : Type} (m : M α) : Prop := ∀ s, WF s.ctx → Rel s (m s).2

theorem pres_pure {α : Type} (a : α) : Pres (pure a : M α) := fun s _ => Rel.refl s

theorem pres_raise {α : Type} (e : Err) : Pres (raise e : M α) := fun s _ => Rel.refl s

theorem pres_getCtx : Pres getCtx := fun s _ => Rel.refl s

theorem pres_emit (e : Expr) : Pres (emit e) := fun _ _ => ⟨⟨[], rfl⟩, ⟨[e], rfl⟩⟩

theorem pres_liftE {α : Type} (x : Except Err α) : Pres (liftE x) := by
  cases x <;> intro s _ <;> exact Rel.refl s

theorem pres_assign (k : String) (v : Expr) : Pres (assign k v) := by
  intro s _
  unfold assign
  cases h : s.ctx.set k v with
  | ok c => exact ⟨⟨[(k, v)], by simp [applyWrites, Ctx.setD, h]⟩, ⟨[], by simp⟩⟩
  | error e => exact Rel.refl s

theorem pres_bind {α β : Type} {m : M α} {f : α → M β} (hm : Pres m) (hf : ∀ a, Pres (f a)) :
    Pres (m >>= f) := by
  intro s hw
  show Rel s (bind' m f s).2
  unfold bind'
  have h1 := hm s hw
  rcases he : m s with ⟨_ | a, s'⟩
  · -- `m` raises: `f` does not run
    rw [he] at h1
    exact h1
  · rw [he] at h1
    exact h1.trans (hf a s' (h1.wf hw))

/-- a framed computation, seen from the caller: every scope of the caller keeps exactly its names,
    and no name of the frame is written below it -/
theorem framed_caller {α : Type} (d : KV) (m : M α) (hm : Pres m) (s : St) (hw : WF s.ctx) :
    ∃ ws', (framed d m s).2.ctx = applyWrites s.ctx ws' ∧
      (∀ w ∈ ws', d.has w.1 = false ∧ reserved w.1 = false) ∧
      (framed d m s).2.ctx.scopes.map sig = s.ctx.scopes.map sig ∧
      ∃ l, (framed d m s).2.log = s.log ++ l := by
  unfold framed
  obtain ⟨⟨ws, e⟩, hl⟩ := hm { s with ctx := s.ctx.push d } (WF_push hw)
  obtain ⟨d', ws', h, hws, _, hsig⟩ := applyWrites_push ws s.ctx d
  simp only at e hl ⊢
  have : (m { s with ctx := s.ctx.push d }).2.ctx.pop = applyWrites s.ctx ws' := by
    rw [e, h, pop_push (WF_of_same (applyWrites_same _ _) hw)]
  exact ⟨ws', this, hws, by rw [this, hsig], hl⟩

theorem pres_framed {α : Type} {d : KV} {m : M α} (hm : Pres m) : Pres (framed d m) := fun s hw =>
  have ⟨ws', h, _, _, hl⟩ := framed_caller d m hm s hw
  ⟨⟨ws', h⟩, hl⟩

/-! ## what `step` does at an operator node

The operands are evaluated; the continuation (`K`) is a function of their values that does not see the
state (`op1K`, `op2K`) or, for `@`, one more call (`atK`). -/

def op1K (o : String) (x : Expr) : Except Err Expr :=
  match x with
  | .lit v => match monad o v with
    | some r => .ok (.lit r)
    | none => .error .type
  | _ => .error .type

def op2K (o : String) (x y : Expr) : Except Err Expr :=
  match x, y with
  | .lit v, .lit w => match dyad o v w with
    | some r => .ok (.lit r)
    | none => .error .type
  | _, _ => .error .type

/-- what `@` accepts on its left: a function object, a Python callable, a name -/
def callable (x : Expr) : Bool :=
  isKGFn x || isLam x || (match x with | .sym _ => true | _ => false)

/-- `x@y`: `x` called with the members of `y` -/
def atK (ev : Expr → M Expr) (x y : Expr) : M Expr :=
  if callable x then
    match y with
    | .lit (.list ys) => ev (.call x (ys.map ofMember) 1)
    | _ => ev (.call x [y] 1)
  else raise .unmodelled

theorem step_op1 (ev : Expr → M Expr) (o : String) (a : Expr) :
    step ev (.op1 o a) = ev a >>= fun x => liftE (op1K o x) := by
  simp only [step]
  congr 1
  funext x
  cases x with
  | lit v =>
    simp only [op1K]
    cases monad o v <;> rfl
  | _ => rfl

theorem step_op2 (ev : Expr → M Expr) (o : String) (a b : Expr) :
    step ev (.op2 o a b) =
      ev b >>= fun y => ev a >>= fun x => if o == "@" then atK ev x y else liftE (op2K o x y) := by
  simp only [step]
  congr 1
  funext y
  congr 1
  funext x
  split
  · rfl
  · cases x with
    | lit v =>
      cases y with
      | lit w =>
        simp only [op2K]
        cases dyad o v w <;> rfl
      | _ => rfl
    | _ => rfl

/-! ## every piece of the evaluator maintains `Rel` -/

theorem pres_runPrim (name : String) : Pres (runPrim name) := by
  unfold runPrim
  refine pres_bind pres_getCtx (fun c => ?_)
  -- arms of `runPrim`: `x` unbound; `boom`; `log`; any other name
  split
  · exact pres_raise _
  · split
    · exact pres_raise _
    · split
      · exact pres_bind (pres_emit _) (fun _ => pres_pure _)
      · exact pres_raise _

section evaluator
variable {ev : Expr → M Expr}

theorem pres_callE (hev : ∀ e, Pres (ev e)) (e : Expr) : Pres (callE ev e) := by
  unfold callE
  split <;> exact hev _

theorem pres_bindArgs (hev : ∀ e, Pres (ev e)) :
    ∀ (ps : List String) (as : List Expr), Pres (bindArgs ev ps as)
  | [], _ | _ :: _, [] => pres_pure _
  | _ :: ps, a :: as =>
    pres_bind (pres_callE hev a) fun _ =>
      pres_bind (pres_bindArgs hev ps as) fun _ => pres_pure _

theorem pres_evalProg (hev : ∀ e, Pres (ev e)) :
    ∀ (es : List Expr) (last : Expr), Pres (evalProg ev last es)
  | [], _ => pres_pure _
  | x :: xs, _ => pres_bind (pres_callE hev x) fun v => pres_evalProg hev xs v

theorem pres_evalEachLoop (hev : ∀ e, Pres (ev e)) (f : Expr) :
    ∀ (xs : List Val), Pres (evalEachLoop ev f xs)
  | [] => pres_pure _
  | _ :: xs =>
    pres_bind (hev _) fun _ => pres_bind (pres_evalEachLoop hev f xs) fun _ => pres_pure _

theorem pres_evalOverLoop (hev : ∀ e, Pres (ev e)) (f : Expr) :
    ∀ (xs : List Val) (acc : Expr), Pres (evalOverLoop ev f acc xs)
  | [], _ => pres_pure _
  | _ :: xs, _ => pres_bind (hev _) fun a => pres_evalOverLoop hev f xs a

theorem pres_runBody (hev : ∀ e, Pres (ev e)) (body : Expr) : Pres (runBody ev body) := by
  unfold runBody
  split
  · exact pres_runPrim _
  · exact pres_callE hev _

theorem pres_applyFn (hev : ∀ e, Pres (ev e)) (f : Expr) (merged : Option (List Expr)) :
    Pres (applyFn ev f merged) := by
  unfold applyFn
  refine pres_bind ?_ (fun frame0 => ?_)
  · unfold bindFrame
    split
    · exact pres_pure _
    · exact pres_bindArgs hev _ _
  · exact pres_framed (pres_runBody hev _)

theorem pres_evalFn (hev : ∀ e, Pres (ev e)) (self a : Expr) (args : Option (List Expr))
    (ar : Nat) :
    Pres (evalFn ev self a args ar) := by
  unfold evalFn
  refine pres_bind pres_getCtx (fun c => ?_)
  refine pres_bind (pres_liftE _) (fun p => ?_)
  split
  · exact pres_pure _
  · exact pres_applyFn hev _ _

theorem pres_atK (hev : ∀ e, Pres (ev e)) (x y : Expr) : Pres (atK ev x y) := by
  unfold atK
  split
  · split <;> exact hev _
  · exact pres_raise _

theorem pres_step (hev : ∀ e, Pres (ev e)) (e : Expr) : Pres (step ev e) := by
  cases e with
  | sym s =>
    simp only [step]
    refine pres_bind pres_getCtx fun c => ?_
    split
    · exact pres_pure _
    · split
      · exact pres_pure _
      · exact pres_bind (pres_assign _ _) fun _ => pres_pure _
  | op1 o a =>
    rw [step_op1]
    exact pres_bind (hev _) fun _ => pres_liftE _
  | op2 o a b =>
    rw [step_op2]
    refine pres_bind (hev _) fun y => pres_bind (hev _) fun x => ?_
    split
    · exact pres_atK hev _ _
    · exact pres_liftE _
  | asg s rhs =>
    simp only [step]
    exact pres_bind (hev _) fun v => pres_bind (pres_assign _ _) fun _ => pres_pure _
  | call a as ar => exact pres_evalFn hev _ _ _ _
  | callN a ar => exact pres_evalFn hev _ _ _ _
  | prog es => exact pres_evalProg hev _ _
  | cond c a b =>
    simp only [step]
    refine pres_bind (pres_callE hev _) fun q => ?_
    split <;> exact pres_callE hev _
  | each f arg =>
    simp only [step]
    refine pres_bind (hev _) fun a => ?_
    -- the value of `arg`: a list (empty, or the loop and its result), a string, a dictionary, an atom
    split
    · split
      · exact pres_pure _
      · refine pres_bind (pres_evalEachLoop hev _ _) fun r => ?_
        split
        · exact pres_pure _
        · exact pres_raise _
    · exact pres_raise _
    · exact pres_raise _
    · exact hev _
  | over f arg =>
    simp only [step]
    refine pres_bind (hev _) fun a => ?_
    -- the value of `arg`: `[]`, `[x]`, a longer list (the loop), `""`, a longer string, anything else
    split
    · exact pres_pure _
    · exact pres_pure _
    · exact pres_evalOverLoop hev _ _ _
    · exact pres_pure _
    · exact pres_raise _
    · exact pres_pure _
  | _ => exact pres_pure _

end evaluator

theorem pres_eval : ∀ (n : Nat) (e : Expr), Pres (eval n e)
  | 0, _ => pres_raise _
  | n + 1, e => pres_step (pres_eval n) e

/-- PROPERTY.  For every program, every fuel and every outcome — a value, or an error raised at any
    sub-expression at any call depth: the context has the depth it had before, every scope below
    the top one has exactly the names it had (their values change only by assignment), the top
    scope keeps its names, the post-state is the pre-state with a list of assignments applied, and
    the event log has only grown. -/
theorem frame_discipline (n : Nat) (e : Expr) (s : St) (hw : WF s.ctx) :
    (eval n e s).2.ctx.depth = s.ctx.depth ∧
    (eval n e s).2.ctx.minCount = s.ctx.minCount ∧
    (eval n e s).2.ctx.scopes.tail.map sig = s.ctx.scopes.tail.map sig ∧
    (∀ k, topHas s.ctx.scopes k = true → topHas (eval n e s).2.ctx.scopes k = true) ∧
    (∃ ws, (eval n e s).2.ctx = applyWrites s.ctx ws) ∧
    (∃ l, (eval n e s).2.log = s.log ++ l) := by
  have h := pres_eval n e s hw
  have hs := h.same
  exact ⟨hs.len, hs.min, hs.below, hs.top, h.1, h.2⟩

/-- PROPERTY.  Whatever the outcome of evaluating `e` (in particular when it failed part-way), every
    further program behaves exactly as it does from the pre-state with the assignments of `e`
    applied: nothing else of the failed evaluation is left behind. -/
theorem eval_after_failure (n : Nat) (e : Expr) (s : St) (hw : WF s.ctx) :
    ∃ ws l, ∀ (m : Nat) (p : Expr),
      eval m p (eval n e s).2 = eval m p { ctx := applyWrites s.ctx ws, log := s.log ++ l } := by
  obtain ⟨⟨ws, hc⟩, ⟨l, hl⟩⟩ := pres_eval n e s hw
  exact ⟨ws, l, fun m p => by rw [← hc, ← hl]⟩

theorem bind_run {α β : Type} (m : M α) (f : α → M β) (s : St) :
    (m >>= f) s = match m s with
      | (.ok a, s') => f a s'
      | (.error e, s') => (.error e, s') := rfl

theorem pure_run {α : Type} (a : α) (s : St) : (pure a : M α) s = (.ok a, s) := rfl

theorem evalFn_run (ev : Expr → M Expr) (self a : Expr) (args : Option (List Expr)) (ar : Nat) (s : St) :
    evalFn ev self a args ar s =
      match prepare s.ctx a args ar with
      | .error e => (.error e, s)
      | .ok none => (.ok self, s)
      | .ok (some (f, merged)) => applyFn ev f merged s := by
  unfold evalFn
  simp only [bind_run, getCtx]
  rcases prepare s.ctx a args ar with _ | _ | ⟨_, _⟩ <;> rfl

theorem eval_call_run (n : Nat) (a : Expr) (as : List Expr) (ar : Nat) (s : St) :
    eval (n + 1) (.call a as ar) s =
      match prepare s.ctx a (some as) ar with
      | .error e => (.error e, s)
      | .ok none => (.ok (.call a as ar), s)
      | .ok (some (f, merged)) => applyFn (eval n) f merged s := by
  show step (eval n) _ s = _
  simp only [step, evalFn_run]

/-- The state is written `⟨c, lg⟩`: with a variable `s` and `s.ctx` in `h`, a use at a state `⟨c, lg⟩` has
    to solve `?s.ctx =?= c`, which is slow. -/
theorem eval_call_prepared {n : Nat} {a : Expr} {as : List Expr} {ar : Nat} {c : Ctx} {lg : List Expr} {f : Expr}
    {merged : Option (List Expr)} (h : prepare c a (some as) ar = .ok (some (f, merged))) :
    eval (n + 1) (.call a as ar) ⟨c, lg⟩ = applyFn (eval n) f merged ⟨c, lg⟩ := by
  rw [eval_call_run, h]

theorem eval_lit (n : Nat) (v : Val) (s : St) : (eval n (.lit v) s).2 = s := by
  cases n <;> rfl

theorem eval_lit_ok (n : Nat) (v : Val) (s : St) : eval (n + 1) (.lit v) s = (.ok (.lit v), s) := rfl

/-! ## computations that leave the state alone

On these `M` is `Except`: the rules below read `liftE`, `bind`, `if` and `framed` that way. -/

def Returns {α : Type} (m : M α) (s : St) (r : Except Err α) : Prop := m s = (r, s)

theorem Returns.liftE {α : Type} {x : Except Err α} {s : St} : Returns (M.liftE x) s x := by
  cases x <;> rfl

theorem Returns.bind {α β : Type} {m : M α} {f : α → M β} {s : St} {r : Except Err α}
    {g : α → Except Err β} (hm : Returns m s r) (hf : ∀ a, Returns (f a) s (g a)) :
    Returns (m >>= f) s (r >>= g) := by
  rw [Returns, bind_run, hm]
  cases r with
  | error e => rfl
  | ok a => exact hf a

theorem Returns.ite {α : Type} {p : Prop} [Decidable p] {m m' : M α} {s : St} {r r' : Except Err α}
    (h : Returns m s r) (h' : Returns m' s r') :
    Returns (if p then m else m') s (if p then r else r') := by
  split
  · exact h
  · exact h'

theorem Returns.bind_ok {α β : Type} {m : M α} {f : α → M β} {s : St} {a : α}
    (hm : Returns m s (.ok a)) : (m >>= f) s = f a s := by
  rw [bind_run, hm]

theorem Returns.framed {α : Type} {m : M α} {c : Ctx} {lg : List Expr} {d : KV} {r : Except Err α}
    (hw : WF c) (hm : Returns m ⟨c.push d, lg⟩ r) : Returns (M.framed d m) ⟨c, lg⟩ r := by
  unfold Returns M.framed
  simp only
  rw [hm]
  simp only [pop_push hw]

theorem eval_sym_bound (n : Nat) {k : String} {v : Expr} {s : St} (h : s.ctx.get k = some v) :
    Returns (eval (n + 1) (.sym k)) s (.ok v) := by
  show step (eval n) _ s = _
  simp [step, bind_run, getCtx, h, pure_run]

/-! ## the frame of a call -/

theorem bindArgs_lits_ok (n : Nat) (ps : List String) (vals : List Val) (s : St) :
    bindArgs (eval (n + 1)) ps (vals.map .lit) s = (.ok (ps.zip (vals.map .lit)), s) := by
  induction ps generalizing vals with
  | nil => simp [bindArgs, pure_run]
  | cons p ps ih =>
    cases vals with
    | nil => simp [bindArgs, pure_run]
    | cons v vals =>
      simp only [List.map_cons, bindArgs, bind_run, callE, eval_lit_ok, ih, pure_run, List.zip_cons_cons]

/-- `r` is not always `.ok`: with no fuel and something to bind it raises -/
theorem bindArgs_lits (n : Nat) (ps : List String) (vals : List Val) (s : St) :
    ∃ r, Returns (bindArgs (eval n) ps (vals.map .lit)) s r ∧
      ∀ fr, r = .ok fr → fr = ps.zip (vals.map .lit) := by
  cases n with
  | succ n => exact ⟨_, bindArgs_lits_ok n ps vals s, by simp⟩
  | zero =>
    rcases ps with _ | ⟨p, ps⟩ <;> rcases vals with _ | ⟨v, vals⟩ <;> exact ⟨_, rfl, by simp⟩

theorem addLocals_has (ns : List String) (d : KV) (k : String) :
    (addLocals d ns).has k = (d.has k || decide (k ∈ ns)) := by
  induction ns generalizing d with
  | nil => simp [addLocals]
  | cons n ns ih =>
    rw [addLocals, ih]
    by_cases hk : k = n <;> split <;> simp [KV.has_put, *]

/-- the names a function declares local (`[a b]` in front of its body) -/
def declared (f : Expr) : List String :=
  match splitLocals f with
  | some (ns, _) => ns
  | none => []

theorem frameOf_has (f : Expr) (frame0 : KV) (k : String) :
    (frameOf f frame0).1.has k = true ↔ frame0.has k = true ∨ k ∈ declared f ∨ k = ".f" := by
  rw [← or_rotate]
  unfold frameOf declared
  split <;> simp [*, KV.has_put, addLocals_has]

/-- the substitution of a call with the argument values `vals` -/
def sigma (vals : List Val) : KV := List.zip ["x", "y", "z"] (vals.map .lit)

theorem sigma_has (vals : List Val) (k : String) :
    (sigma vals).has k = true ↔ k ∈ ["x", "y", "z"].take vals.length := by
  rw [← KV.mem_keys_iff, sigma, KV.keys_zip, List.length_map]

/-- Other than in `frame_discipline` the top scope, too, keeps exactly its names: what a call creates, it
    creates in its own frame. -/
theorem applyFn_caller (n : Nat) (f : Expr) (vals : List Val) (s : St) (hw : WF s.ctx) :
    (applyFn (eval n) f (some (vals.map .lit)) s).2.ctx.scopes.map sig = s.ctx.scopes.map sig ∧
    (applyFn (eval n) f (some (vals.map .lit)) s).2.ctx.depth = s.ctx.depth ∧
    ∀ k, (k ∈ ["x", "y", "z"].take vals.length ∨ k ∈ declared f ∨ k = ".f") →
      (applyFn (eval n) f (some (vals.map .lit)) s).2.ctx.get k = s.ctx.get k := by
  obtain ⟨r, hb, hr⟩ := bindArgs_lits n ["x", "y", "z"] vals s
  unfold applyFn
  simp only [bind_run, bindFrame, show bindArgs _ _ _ s = (r, s) from hb]
  cases r with
  | error e => simp
  | ok frame0 =>
    obtain rfl := hr frame0 rfl
    obtain ⟨ws', hctx, hws, hsig, -⟩ := framed_caller (frameOf f (sigma vals)).1
      (runBody (eval n) (frameOf f (sigma vals)).2) (pres_runBody (pres_eval n) _) s hw
    refine ⟨hsig, by simpa [Ctx.depth, sigma] using congrArg List.length hsig, fun k hk => ?_⟩
    -- a write that reaches the caller is to a name the frame does not have; the frame has `k`
    refine hctx ▸ applyWrites_get fun w hw' heq => ?_
    have := (hws w hw').1
    rw [heq, ← Bool.not_eq_true, frameOf_has, sigma_has] at this
    exact this hk

/-- PROPERTY (frame discipline of a call).  A call whose arguments are values — whatever happens
    inside it, at any depth, value or error — leaves every scope of the caller with exactly the names
    it had and the context at its depth. (`hm`: the arguments stored in projections it goes through
    are values too.) -/
theorem call_frame_discipline (n : Nat) (a : Expr) (vals : List Val) (ar : Nat) (s : St) (hw : WF s.ctx)
    (hm : ∀ f merged, prepare s.ctx a (some (vals.map .lit)) ar = .ok (some (f, merged)) →
      ∃ vs : List Val, merged = some (vs.map .lit)) :
    (eval (n + 1) (.call a (vals.map .lit) ar) s).2.ctx.scopes.map sig = s.ctx.scopes.map sig ∧
    (eval (n + 1) (.call a (vals.map .lit) ar) s).2.ctx.depth = s.ctx.depth := by
  rw [eval_call_run]
  rcases hp : prepare s.ctx a (some (vals.map .lit)) ar with _ | _ | ⟨f, merged⟩
  · simp
  · simp
  · obtain ⟨vs, rfl⟩ := hm f merged hp
    have ⟨h1, h2, _⟩ := applyFn_caller n f vs s hw
    exact ⟨h1, h2⟩

/-- PROPERTY.  Parameters, declared locals and `.f` exist only during the call: afterwards — also
    when the call failed part-way — each of these names has in the caller's context the value (or
    the absence of a value) it had before. -/
theorem locals_are_local (n : Nat) (a : Expr) (vals : List Val) (ar : Nat) (s : St) (hw : WF s.ctx)
    (f : Expr) (vs : List Val)
    (hp : prepare s.ctx a (some (vals.map .lit)) ar = .ok (some (f, some (vs.map .lit))))
    (k : String) (hk : k ∈ ["x", "y", "z"].take vs.length ∨ k ∈ declared f ∨ k = ".f") :
    (eval (n + 1) (.call a (vals.map .lit) ar) s).2.ctx.get k = s.ctx.get k := by
  rw [eval_call_prepared hp]
  exact (applyFn_caller n f vs s hw).2.2 k hk

/-! ## projections -/

/-- one filling step, in absolute terms: position ↦ argument (absent = stays open) -/
abbrev Fill := List (Nat × Expr)

def fillGet : Fill → Nat → Expr
  | [], _ => .hole
  | (j, e) :: r, i => if i = j then e else fillGet r i

/-- the argument list one writes for the fill `st` when the current argument vector is `cur`:
    one entry per open position, in order — `g(;2)` -/
def relLayerFrom (i : Nat) : List Expr → Fill → List Expr
  | [], _ => []
  | e :: r, st => if isHole e then fillGet st i :: relLayerFrom (i + 1) r st else relLayerFrom (i + 1) r st

def applyFillFrom (i : Nat) : List Expr → Fill → List Expr
  | [], _ => []
  | e :: r, st => (if isHole e then fillGet st i else e) :: applyFillFrom (i + 1) r st

theorem isHole_eq {e : Expr} (h : isHole e = true) : e = .hole := by
  cases e <;> simp_all [isHole]

theorem fillLayer_skip {s : Expr} {ss L : List Expr} (h : isHole s = false) :
    fillLayer (s :: ss) L = s :: fillLayer ss L := by
  cases L with
  | nil => cases ss <;> simp [fillLayer]
  | cons a as => cases s <;> simp_all [fillLayer, isHole]

/-- what `merge_projections` does with one layer is the positional fill -/
theorem fillLayer_rel (cur : List Expr) (i : Nat) (st : Fill) :
    fillLayer cur (relLayerFrom i cur st) = applyFillFrom i cur st := by
  induction cur generalizing i with
  | nil => simp [applyFillFrom, fillLayer]
  | cons e r ih =>
    by_cases he : isHole e = true
    · obtain rfl := isHole_eq he
      simp only [relLayerFrom, applyFillFrom, isHole, if_true, fillLayer, ih]
    · have he' : isHole e = false := by simpa using he
      simp only [relLayerFrom, applyFillFrom, he', Bool.false_eq_true, if_false]
      rw [fillLayer_skip he', ih]

theorem applyFillFrom_length (cur : List Expr) (i : Nat) (st : Fill) :
    (applyFillFrom i cur st).length = cur.length := by
  induction cur generalizing i with
  | nil => rfl
  | cons e r ih => simp [applyFillFrom, ih]

theorem applyFillFrom_get (cur : List Expr) (i j : Nat) (st : Fill) :
    (applyFillFrom i cur st)[j]? = cur[j]?.map (fun e => if isHole e then fillGet st (i + j) else e) := by
  induction cur generalizing i j with
  | nil => simp [applyFillFrom]
  | cons e r ih =>
    cases j with
    | zero => simp [applyFillFrom]
    | succ j => simp only [applyFillFrom, List.getElem?_cons_succ, ih, Nat.add_right_comm, Nat.add_assoc]

/-- PROPERTY (merge is positional).  The layer written for a fill — one entry per open hole, in
    order, the argument for that position or again a hole — puts into every position exactly the
    argument the fill names for it and leaves the positions filled earlier alone. -/
theorem merge_is_positional (cur : List Expr) (st : Fill) (j : Nat) :
    (fillLayer cur (relLayerFrom 0 cur st))[j]? =
      cur[j]?.map (fun e => if isHole e then fillGet st j else e) := by
  rw [fillLayer_rel, applyFillFrom_get]
  simp

/-- `_resolve_fn` leaves the expression alone: operator nodes, conditionals, programs, data
    (`stable_*`).  Not a symbol the context binds, even to data: a pass replaces it by its value. -/
def Stable (c : Ctx) (b : Expr) : Prop := ∀ L ar, resolve1 c b L ar = .ok (b, L, ar)

theorem stable_op2 (c : Ctx) (o : String) (a b : Expr) : Stable c (.op2 o a b) := by
  intro L ar
  simp [resolve1]
theorem stable_op1 (c : Ctx) (o : String) (a : Expr) : Stable c (.op1 o a) := by
  intro L ar
  simp [resolve1]
theorem stable_cond (c : Ctx) (t a b : Expr) : Stable c (.cond t a b) := by
  intro L ar
  simp [resolve1]
theorem stable_prog (c : Ctx) (es : List Expr) : Stable c (.prog es) := by
  intro L ar
  simp [resolve1]
theorem stable_lit (c : Ctx) (v : Val) : Stable c (.lit v) := by
  intro L ar
  simp [resolve1]

/-! ### calls through projections

`f` is bound to a function, `g` to a projection of `f`, `h` to a projection of `g`. `prepare` makes three
resolution passes whatever the callee; those the chain does not use up see the body, hence `Stable`. -/

section chain
variable {c : Ctx} {f g h : String} {body : Expr} {far ar k1 k2 k3 : Nat} {L : Layers}
  {as L1 L2 L3 : List Expr}

theorem resolve1_fn (har : 0 < ar) : resolve1 c (.fn body far) L ar = .ok (body, L, far) := by
  simp [resolve1, har]

theorem resolve1_sym_fn (hfr : reserved f = false) (hf : c.get f = some (.fn body far))
    (har : 0 < ar) : resolve1 c (.sym f) L ar = .ok (body, L, far) := by
  simp [resolve1, hf, hfr, isKGFn, har]

theorem resolve1_sym_proj {a : Expr} (hgr : reserved g = false)
    (hg : c.get g = some (.proj a L1 k1)) (h1 : hasHole L1 = true) (har : 0 < ar) :
    resolve1 c (.sym g) L ar = .ok (a, L ++ [some L1], k1) := by
  simp [resolve1, hg, hgr, isKGFn, har, h1]

theorem prepare_fn (hst : Stable c body) (har : 0 < ar)
    (hfull : hasHole as = false) (hfar : far ≤ as.length) :
    prepare c (.fn body far) (some as) ar = .ok (some (body, some as)) := by
  simp [prepare, resolve3, resolve1_fn har, hst _ _, mergeProjections, hfull,
    Nat.not_lt.mpr hfar, bind, Except.bind]

theorem prepare_direct (hst : Stable c body) (har : 0 < ar)
    (hfr : reserved f = false) (hf : c.get f = some (.fn body far))
    (hfull : hasHole as = false) (hfar : far ≤ as.length) :
    prepare c (.sym f) (some as) ar = .ok (some (body, some as)) := by
  simp [prepare, resolve3, resolve1_sym_fn hfr hf har, hst _ _, mergeProjections, hfull,
    Nat.not_lt.mpr hfar, bind, Except.bind]

theorem prepare_one_step (hst : Stable c body)
    (hfr : reserved f = false) (hf : c.get f = some (.fn body far))
    (hgr : reserved g = false) (hg : c.get g = some (.proj (.sym f) L1 k1))
    (h1 : hasHole L1 = true) (hk1 : 0 < k1) (hk2 : 0 < k2)
    (hfull : hasHole (fillLayer L1 L2) = false) (hfar : far ≤ (fillLayer L1 L2).length) :
    prepare c (.sym g) (some L2) k2 = .ok (some (body, some (fillLayer L1 L2))) := by
  simp [prepare, resolve3, resolve1_sym_proj hgr hg h1 hk2, resolve1_sym_fn hfr hf hk1, hst _ _,
    mergeProjections, fillLayers, h1, hfull, Nat.not_lt.mpr hfar, bind, Except.bind, Except.map]

/-- `g::f(L1); g(L2)` is `f(L)` for the positional merge `L` of the two layers -/
theorem call_through_one (hst : Stable c body) (har : 0 < ar)
    (hfr : reserved f = false) (hf : c.get f = some (.fn body far))
    (hgr : reserved g = false) (hg : c.get g = some (.proj (.sym f) L1 k1))
    (h1 : hasHole L1 = true) (hk1 : 0 < k1) (hk2 : 0 < k2)
    (hfull : hasHole (fillLayer L1 L2) = false) (hfar : far ≤ (fillLayer L1 L2).length)
    (m : Nat) (lg : List Expr) :
    eval (m + 1) (.call (.sym g) L2 k2) ⟨c, lg⟩ =
      eval (m + 1) (.call (.sym f) (fillLayer L1 L2) ar) ⟨c, lg⟩ := by
  rw [eval_call_prepared (prepare_one_step hst hfr hf hgr hg h1 hk1 hk2 hfull hfar),
    eval_call_prepared (prepare_direct hst har hfr hf hfull hfar)]

/-- the third pass ends at the body, so `Stable` is not needed -/
theorem prepare_two_steps (hfr : reserved f = false) (hf : c.get f = some (.fn body far))
    (hgr : reserved g = false) (hg : c.get g = some (.proj (.sym f) L1 k1))
    (h1 : hasHole L1 = true) (hk1 : 0 < k1) (hk2 : 0 < k2)
    (hhr : reserved h = false) (hh : c.get h = some (.proj (.sym g) L2 k2))
    (h2 : hasHole L2 = true) (hk3 : 0 < k3)
    (hfull : hasHole (fillLayer (fillLayer L1 L2) L3) = false)
    (hfar : far ≤ (fillLayer (fillLayer L1 L2) L3).length) :
    prepare c (.sym h) (some L3) k3 =
      .ok (some (body, some (fillLayer (fillLayer L1 L2) L3))) := by
  simp [prepare, resolve3, resolve1_sym_proj hhr hh h2 hk3, resolve1_sym_proj hgr hg h1 hk2,
    resolve1_sym_fn hfr hf hk1, mergeProjections, fillLayers, h1, hfull, Nat.not_lt.mpr hfar, bind,
    Except.bind, Except.map]

/-- `g::f(L1); h::g(L2); h(L3)` is `f(L)` for the positional merge `L` of the three layers -/
theorem call_through_two (hst : Stable c body) (har : 0 < ar)
    (hfr : reserved f = false) (hf : c.get f = some (.fn body far))
    (hgr : reserved g = false) (hg : c.get g = some (.proj (.sym f) L1 k1))
    (h1 : hasHole L1 = true) (hk1 : 0 < k1) (hk2 : 0 < k2)
    (hhr : reserved h = false) (hh : c.get h = some (.proj (.sym g) L2 k2))
    (h2 : hasHole L2 = true) (hk3 : 0 < k3)
    (hfull : hasHole (fillLayer (fillLayer L1 L2) L3) = false)
    (hfar : far ≤ (fillLayer (fillLayer L1 L2) L3).length) (m : Nat) (lg : List Expr) :
    eval (m + 1) (.call (.sym h) L3 k3) ⟨c, lg⟩ =
      eval (m + 1) (.call (.sym f) (fillLayer (fillLayer L1 L2) L3) ar) ⟨c, lg⟩ := by
  rw [eval_call_prepared
      (prepare_two_steps hfr hf hgr hg h1 hk1 hk2 hhr hh h2 hk3 hfull hfar),
    eval_call_prepared (prepare_direct hst har hfr hf hfull hfar)]

end chain

/-! ### … with the layers written by `relLayerFrom`, starting from `n` open positions -/

def holes (n : Nat) : List Expr := List.replicate n .hole

theorem relLayerFrom_holes (n i : Nat) (st : Fill) :
    relLayerFrom i (holes n) st = applyFillFrom i (holes n) st := by
  induction n generalizing i with
  | zero => rfl
  | succ n ih =>
    simp only [holes, List.replicate_succ, relLayerFrom, applyFillFrom, isHole, if_true]
    rw [← holes, ih]

def fillsFrom (cur : List Expr) : List Fill → List Expr
  | [] => cur
  | st :: r => fillsFrom (applyFillFrom 0 cur st) r

/-- PROPERTY (one step).  `g::f(…holes…); g(rest)` — for every arity, every hole pattern (given as a
    fill `st1` of the positions) and every final fill: evaluating the call through the projection
    is, for every fuel and in every state, the same computation as the direct call `f(a;b;c)` whose
    arguments are placed by position — same value or error, same state, same events. -/
theorem projection_one_step (s : St) (f g : String) (body : Expr) (far n k1 k2 ar m : Nat) (st1 st2 : Fill)
    (hfr : reserved f = false) (hf : s.ctx.get f = some (.fn body far))
    (hgr : reserved g = false)
    (hg : s.ctx.get g = some (.proj (.sym f) (relLayerFrom 0 (holes n) st1) k1))
    (h1 : hasHole (relLayerFrom 0 (holes n) st1) = true)
    (hk1 : 0 < k1) (hk2 : 0 < k2) (har : 0 < ar) (hst : Stable s.ctx body)
    (hfull : hasHole (fillsFrom (holes n) [st1, st2]) = false) (hfar : far ≤ n) :
    eval (m + 1) (.call (.sym g) (relLayerFrom 0 (fillsFrom (holes n) [st1]) st2) k2) s =
    eval (m + 1) (.call (.sym f) (fillsFrom (holes n) [st1, st2]) ar) s := by
  have := call_through_one hst har hfr hf hgr hg h1 hk1 hk2
    (L2 := relLayerFrom 0 (fillsFrom (holes n) [st1]) st2)
  simp only [fillsFrom, relLayerFrom_holes, fillLayer_rel] at this hfull ⊢
  exact this hfull (by simpa [applyFillFrom_length, holes] using hfar) m s.log

/-- PROPERTY (any order, three steps).  `g::f(…); h::g(…); h(rest)` — for every arity, every
    hole pattern of the first projection, every partial filling by the second and every final fill
    that leaves no hole: the call through the two projections is the same computation as the direct
    call with the arguments placed by position. With one argument filled per step this covers every
    order of filling a triad; all three `_resolve_fn` passes are used. -/
theorem projection_any_order (s : St) (f g h : String) (body : Expr) (far n k1 k2 k3 ar m : Nat)
    (st1 st2 st3 : Fill)
    (hfr : reserved f = false) (hf : s.ctx.get f = some (.fn body far))
    (hgr : reserved g = false)
    (hg : s.ctx.get g = some (.proj (.sym f) (relLayerFrom 0 (holes n) st1) k1))
    (hhr : reserved h = false)
    (hh : s.ctx.get h = some (.proj (.sym g) (relLayerFrom 0 (fillsFrom (holes n) [st1]) st2) k2))
    (h1 : hasHole (relLayerFrom 0 (holes n) st1) = true)
    (h2 : hasHole (relLayerFrom 0 (fillsFrom (holes n) [st1]) st2) = true)
    (hk1 : 0 < k1) (hk2 : 0 < k2) (hk3 : 0 < k3) (har : 0 < ar) (hst : Stable s.ctx body)
    (hfull : hasHole (fillsFrom (holes n) [st1, st2, st3]) = false) (hfar : far ≤ n) :
    eval (m + 1) (.call (.sym h) (relLayerFrom 0 (fillsFrom (holes n) [st1, st2]) st3) k3) s =
    eval (m + 1) (.call (.sym f) (fillsFrom (holes n) [st1, st2, st3]) ar) s := by
  have := call_through_two hst har hfr hf hgr hg h1 hk1 hk2 hhr hh h2 hk3
    (L3 := relLayerFrom 0 (fillsFrom (holes n) [st1, st2]) st3)
  simp only [fillsFrom, relLayerFrom_holes, fillLayer_rel] at this hfull ⊢
  exact this hfull (by simpa [applyFillFrom_length, holes] using hfar) m s.log

/-- PROPERTY (witness against the pinned tree).  The merge of the tree before
    `fix: merge_projections …` leaves a hole for `g::f(;;3); h::g(;2); h(1)` — the call then ran with
    x unbound — while the positional merge fills all three positions. -/
theorem pinned_merge_counterexample :
    hasHole (mergeOld [.hole, .hole, .lit (.int 3)] [[.hole, .lit (.int 2)], [.lit (.int 1)]]) = true ∧
    hasHole (fillLayer (fillLayer [.hole, .hole, .lit (.int 3)] [.hole, .lit (.int 2)]) [.lit (.int 1)]) = false := by
  decide

/-! ## conditionals -/

/-- PROPERTY.  Klong truth: exactly 0 (integer or real, either sign), [] and "" are false. -/
theorem truthy_spec (q : Expr) :
    truthy q = false ↔
      q = .lit (.int 0) ∨ q = .lit (.real 0) ∨ q = .lit (.real 0x8000000000000000) ∨
      q = .lit (.list []) ∨ q = .lit (.str []) := by
  cases q with
  | lit v => cases v <;> simp [truthy, falsy, Decidable.or_iff_not_imp_left]
  | _ => simp [truthy]

/-- PROPERTY.  `:[c;a;b]` evaluates `c`, then `a` if the value of `c` is true and `b` otherwise —
    and nothing else. -/
theorem cond_by_truth (ev : Expr → M Expr) (c a b : Expr) (s : St) :
    step ev (.cond c a b) s =
      match callE ev c s with
      | (.error e, s1) => (.error e, s1)
      | (.ok q, s1) => if truthy q then callE ev a s1 else callE ev b s1 := by
  simp only [step, bind_run]
  rcases callE ev c s with ⟨_ | q, s1⟩
  · rfl
  · simp only
    split <;> rfl

/-- PROPERTY.  The unselected branch is never evaluated: replace it by any expression at all — one
    that logs, assigns or raises — and result, state and event log of the conditional are the same. -/
theorem cond_unselected_silent (n : Nat) (c a b : Expr) (s : St) (q : Expr) (s1 : St)
    (hc : callE (eval n) c s = (.ok q, s1)) :
    (truthy q = true → ∀ b', eval (n + 1) (.cond c a b) s = eval (n + 1) (.cond c a b') s) ∧
    (truthy q = false → ∀ a', eval (n + 1) (.cond c a b) s = eval (n + 1) (.cond c a' b) s) ∧
    eval (n + 1) (.cond c a b) s = (if truthy q then callE (eval n) a s1 else callE (eval n) b s1) := by
  have h : ∀ a b, eval (n + 1) (.cond c a b) s =
      (if truthy q then callE (eval n) a s1 else callE (eval n) b s1) := by
    intro a b
    show step (eval n) _ s = _
    rw [cond_by_truth, hc]
  refine ⟨fun ht b' => ?_, fun ht a' => ?_, h a b⟩
  · simp [h, ht]
  · simp [h, ht]

/-! ## a call is the substituted body -/

/-- the closed first-order body grammar: data, the parameters `ps`, global data variables of the
    caller's context `c`, monadic and dyadic operators (not `@`), conditionals -/
inductive Body (c : Ctx) (ps : List String) : Expr → Prop
  | lit (v : Val) : Body c ps (.lit v)
  | param (p : String) : p ∈ ps → Body c ps (.sym p)
  | glob (g : String) (v : Val) : reserved g = false → g ≠ ".f" → c.get g = some (.lit v) →
      Body c ps (.sym g)
  | op1 (o : String) (a : Expr) : Body c ps a → Body c ps (.op1 o a)
  | op2 (o : String) (a b : Expr) : o ≠ "@" → Body c ps a → Body c ps b → Body c ps (.op2 o a b)
  | cond (t a b : Expr) : Body c ps t → Body c ps a → Body c ps b → Body c ps (.cond t a b)

theorem callE_body (ev : Expr → M Expr) {c : Ctx} {ps : List String} {e : Expr} (hb : Body c ps e) :
    callE ev e = ev e := by
  cases hb <;> rfl

section sim
variable {c : Ctx} {ps : List String} {frame σ : KV}

theorem callE_subst_body
    (hpar : ∀ p ∈ ps, ∃ v, frame.get p = some (.lit v) ∧ σ.get p = some (.lit v))
    (hfree : ∀ g, reserved g = false → g ≠ ".f" → frame.get g = none ∧ σ.get g = none)
    (ev : Expr → M Expr) {e : Expr} (hb : Body c ps e) :
    callE ev (subst σ e) = ev (subst σ e) := by
  cases hb with
  | param p hp =>
    obtain ⟨v, _, h2⟩ := hpar p hp
    rw [subst, bound, h2]
    rfl
  | glob g v hr hf hg =>
    rw [subst, bound, (hfree g hr hf).2]
    rfl
  | _ => rfl

/-- evaluating a body of the grammar under a frame that binds its parameters to values is evaluating
    the substituted body without the frame; neither changes the state -/
theorem sim
    (hpar : ∀ p ∈ ps, ∃ v, frame.get p = some (.lit v) ∧ σ.get p = some (.lit v))
    (hfree : ∀ g, reserved g = false → g ≠ ".f" → frame.get g = none ∧ σ.get g = none)
    (n : Nat) {e : Expr} (hb : Body c ps e) (lg : List Expr) : ∃ r,
    Returns (eval n (subst σ e)) ⟨c, lg⟩ r ∧ Returns (eval n e) ⟨c.push frame, lg⟩ r := by
  induction n generalizing e with
  | zero => exact ⟨_, rfl, rfl⟩
  | succ n ih =>
    cases hb with
    | lit v => exact ⟨_, rfl, rfl⟩
    | param p hp =>
      obtain ⟨v, h1, h2⟩ := hpar p hp
      rw [subst, bound, h2]
      exact ⟨_, rfl, eval_sym_bound n (by simp [get_push, h1])⟩
    | glob g v hr hf hg =>
      obtain ⟨h1, h2⟩ := hfree g hr hf
      rw [subst, bound, h2]
      exact ⟨_, eval_sym_bound n hg, eval_sym_bound n (by simp [get_push, h1, hg])⟩
    | op1 o a ha =>
      obtain ⟨r, i1, i2⟩ := ih ha
      simp only [subst, eval, step_op1]
      exact ⟨_, i1.bind fun _ => .liftE, i2.bind fun _ => .liftE⟩
    | op2 o a b ho ha hb' =>
      obtain ⟨ra, a1, a2⟩ := ih ha
      obtain ⟨rb, b1, b2⟩ := ih hb'
      have ho' : (o == "@") = false := by simpa using ho
      simp only [subst, eval, step_op2, ho', Bool.false_eq_true, if_false]
      exact ⟨_, b1.bind fun _ => a1.bind fun _ => .liftE,
        b2.bind fun _ => a2.bind fun _ => .liftE⟩
    | cond t a b ht ha hb' =>
      obtain ⟨rt, t1, t2⟩ := ih ht
      obtain ⟨ra, a1, a2⟩ := ih ha
      obtain ⟨rb, b1, b2⟩ := ih hb'
      have hcs := fun e (hb : Body c ps e) => callE_subst_body hpar hfree (eval n) hb
      have hc := fun e (hb : Body c ps e) => callE_body (eval n) hb
      -- `step` reaches test and branches through `callE`, which is `eval n` on the grammar
      -- (`hc`, and `hcs` after substitution; `ht ha hb'` discharge their premise)
      simp only [subst, eval, step, hcs, hc, ht, ha, hb']
      exact ⟨_, t1.bind fun _ => .ite a1 b1, t2.bind fun _ => .ite a2 b2⟩

end sim

theorem hasHole_lits (vals : List Val) : hasHole (vals.map .lit) = false := by
  simp [hasHole, isHole]

theorem sigma_frame_param (vals : List Val) (body : Expr) :
    ∀ p ∈ ["x", "y", "z"].take vals.length,
      ∃ v, ((sigma vals).put ".f" body).get p = some (.lit v) ∧ (sigma vals).get p = some (.lit v) := by
  intro p hp
  have hf : p ≠ ".f" := by
    rintro rfl
    simpa using List.mem_of_mem_take hp
  obtain ⟨e, he⟩ := Option.isSome_iff_exists.mp ((sigma_has vals p).mpr hp)
  obtain ⟨v, -, rfl⟩ := List.mem_map.mp (List.of_mem_zip (KV.get_mem he)).2
  exact ⟨v, by rw [KV.get_put, if_neg hf, he], he⟩

theorem sigma_frame_free (vals : List Val) (body : Expr) :
    ∀ g, reserved g = false → g ≠ ".f" →
      ((sigma vals).put ".f" body).get g = none ∧ (sigma vals).get g = none := by
  intro g hr hf
  have : (sigma vals).get g = none := by
    rw [← Option.not_isSome_iff_eq_none, ← KV.has, sigma_has]
    intro h
    have := List.mem_of_mem_take h
    simp_all [reserved]
  exact ⟨by rw [KV.get_put, if_neg hf, this], this⟩

theorem apply_is_substitution {n : Nat} {c : Ctx} {lg : List Expr} {body : Expr} {vals : List Val} (hw : WF c)
    (hb : Body c (["x", "y", "z"].take vals.length) body) (hsl : splitLocals body = none) :
    applyFn (eval (n + 1)) body (some (vals.map .lit)) ⟨c, lg⟩ =
      eval (n + 1) (subst (sigma vals) body) ⟨c, lg⟩ := by
  obtain ⟨r, h1, h2⟩ := sim (sigma_frame_param vals body) (sigma_frame_free vals body) (n + 1) hb lg
  have hrb : runBody (eval (n + 1)) body = eval (n + 1) body := by
    cases hb <;> rfl
  rw [applyFn, bindFrame, Returns.bind_ok (bindArgs_lits_ok n _ vals _), h1]
  simp only [frameOf, hsl, hrb]
  exact Returns.framed hw h2

/-- PROPERTY (a call is the substituted body).  For every body of the closed first-order grammar,
    every argument tuple of values and every state of the caller: calling the function literal is —
    value or error, state, events — evaluating the body with the values written in place of
    x, y and z. (`hlen` is not needed: `sigma` and the grammar's parameter list both stop at `z`;
    `hsl` follows from `hb`: no `Body` is a `prog`. The call itself takes the one step of fuel.) -/
theorem call_is_substitution (n : Nat) (c : Ctx) (lg : List Expr) (hw : WF c) (body : Expr)
    (far ar : Nat) (vals : List Val) (hlen : vals.length ≤ 3) (hfar : far ≤ vals.length) (har : 0 < ar)
    (hb : Body c (["x", "y", "z"].take vals.length) body) (hst : Stable c body)
    (hsl : splitLocals body = none) :
    eval (n + 2) (.call (.fn body far) (vals.map .lit) ar) ⟨c, lg⟩ =
      eval (n + 1) (subst (sigma vals) body) ⟨c, lg⟩ := by
  rw [eval_call_prepared
    (prepare_fn hst har (hasHole_lits vals) (by simpa using hfar))]
  exact apply_is_substitution hw hb hsl

/-- … and the same through a variable bound to the function -/
theorem call_is_substitution_var (n : Nat) (c : Ctx) (lg : List Expr) (hw : WF c) (f : String) (body : Expr)
    (far ar : Nat) (vals : List Val) (hlen : vals.length ≤ 3) (hfar : far ≤ vals.length) (har : 0 < ar)
    (hfr : reserved f = false) (hf : c.get f = some (.fn body far))
    (hb : Body c (["x", "y", "z"].take vals.length) body) (hst : Stable c body)
    (hsl : splitLocals body = none) :
    eval (n + 2) (.call (.sym f) (vals.map .lit) ar) ⟨c, lg⟩ =
      eval (n + 1) (subst (sigma vals) body) ⟨c, lg⟩ := by
  rw [eval_call_prepared
    (prepare_direct hst har hfr hf (hasHole_lits vals) (by simpa using hfar))]
  exact apply_is_substitution hw hb hsl

/-- … and through `@`, restricted to members that are not symbols (`hns`): a member that is a symbol is
    evaluated once more on its way into the frame (`ofMember`), see `symbol_member_counterexample`. -/
theorem call_is_substitution_at (n : Nat) (c : Ctx) (lg : List Expr) (hw : WF c) (f : String) (body : Expr)
    (far : Nat) (vals : List Val) (hlen : vals.length ≤ 3) (hfar : far ≤ vals.length)
    (hf : c.get f = some (.fn body far))
    (hb : Body c (["x", "y", "z"].take vals.length) body) (hst : Stable c body)
    (hsl : splitLocals body = none)
    (hns : ∀ v ∈ vals, ofMember v = .lit v) :
    eval (n + 3) (.op2 "@" (.sym f) (.lit (.list vals))) ⟨c, lg⟩ =
      eval (n + 1) (subst (sigma vals) body) ⟨c, lg⟩ := by
  have hm : vals.map ofMember = vals.map .lit := List.map_congr_left hns
  -- right operand (a literal), left operand (bound to the function), then `atK` is the literal call
  show step (eval (n + 2)) _ _ = _
  rw [step_op2, Returns.bind_ok (eval_lit_ok (n + 1) _ _),
    Returns.bind_ok (eval_sym_bound (n + 1) (s := ⟨c, lg⟩) hf)]
  show eval (n + 2) (.call (.fn body far) (vals.map ofMember) 1) _ = _
  rw [hm]
  exact call_is_substitution n c lg hw body far 1 vals hlen hfar (by omega) hb hst hsl

/-! ## non-vacuity -/

def body3 : Expr :=
  .op2 "+" (.op2 "*" (.lit (.int 100)) (.sym "x")) (.op2 "+" (.op2 "*" (.lit (.int 10)) (.sym "y")) (.sym "z"))

/-- `{[a];a::x;boom(a)}` -/
def locBody : Expr := .prog [.lit (.list [.sym [97]]), .asg "a" (.sym "x"), .call (.sym "boom") [.sym "a"] 1]

def exCtx : Ctx :=
  { scopes := [{ kv := [("f", .fn body3 3),
                        ("g", .proj (.sym "f") [.hole, .hole, .lit (.int 3)] 3),
                        ("h", .proj (.sym "g") [.hole, .lit (.int 2)] 2),
                        ("a", .lit (.int 10)),
                        ("boom", .callN (.lam "boom") 1),
                        ("log", .callN (.lam "log") 1),
                        ("loc", .fn locBody 1)] }, {}, { ro := true }],
    minCount := 2 }

def exSt : St := { ctx := exCtx }

def obsInt : Except Err Expr → Int
  | .ok (.lit (.int n)) => n
  | _ => -999

def obsInts : Except Err Expr → Option (List Int)
  | .ok (.lit (.list xs)) => asInts xs
  | _ => none

def obsErr : Except Err Expr → Option Err
  | .error e => some e
  | .ok _ => none

def obsGetInt (c : Ctx) (k : String) : Int :=
  match c.get k with
  | some (.lit (.int n)) => n
  | _ => -999

theorem exWF : WF exCtx := by simp [WF, exCtx]

-- a call that assigns its declared local and then raises inside a nested call
example : obsErr (eval 50 (.call (.sym "loc") [.lit (.int 5)] 1) exSt).1 = some .boom := by decide
example : (eval 50 (.call (.sym "loc") [.lit (.int 5)] 1) exSt).2.ctx.depth = 3 :=
  (frame_discipline 50 _ exSt exWF).1
example : obsGetInt (eval 50 (.call (.sym "loc") [.lit (.int 5)] 1) exSt).2.ctx "a" = 10 := by decide
example : declared locBody = ["a"] := by decide

-- g::f(;;3); h::g(;2); h(1): the fill order z, y, x
example : eval 30 (.call (.sym "h") [.lit (.int 1)] 1) exSt =
    eval 30 (.call (.sym "f") [.lit (.int 1), .lit (.int 2), .lit (.int 3)] 3) exSt :=
  projection_any_order exSt "f" "g" "h" body3 3 3 3 2 1 3 29
    [(2, .lit (.int 3))] [(1, .lit (.int 2))] [(0, .lit (.int 1))]
    rfl rfl rfl rfl rfl rfl rfl rfl (by decide) (by decide) (by decide) (by decide)
    (stable_op2 _ _ _ _) rfl (by decide)
example : obsInt (eval 30 (.call (.sym "h") [.lit (.int 1)] 1) exSt).1 = 123 := by decide

-- g::f(;;3); g(1;2)
example : eval 30 (.call (.sym "g") [.lit (.int 1), .lit (.int 2)] 2) exSt =
    eval 30 (.call (.sym "f") [.lit (.int 1), .lit (.int 2), .lit (.int 3)] 3) exSt :=
  projection_one_step exSt "f" "g" body3 3 3 3 2 3 29
    [(2, .lit (.int 3))] [(0, .lit (.int 1)), (1, .lit (.int 2))]
    rfl rfl rfl rfl rfl (by decide) (by decide) (by decide) (stable_op2 _ _ _ _) rfl (by decide)

-- the unselected branch may even be the failing primitive
example : obsInt (eval 20 (.cond (.lit (.list [])) (.call (.sym "boom") [.lit (.int 1)] 1) (.lit (.int 7))) exSt).1 = 7 := by
  decide
example : truthy (.lit (.str [])) = false := (truthy_spec _).mpr (by simp)

theorem body3_body : Body exCtx ["x", "y", "z"] body3 :=
  .op2 _ _ _ (by decide) (.op2 _ _ _ (by decide) (.lit _) (.param _ (by simp)))
    (.op2 _ _ _ (by decide) (.op2 _ _ _ (by decide) (.lit _) (.param _ (by simp))) (.param _ (by simp)))

example : eval 12 (.call (.sym "f") [.lit (.int 1), .lit (.int 2), .lit (.int 3)] 3) exSt =
    eval 11 (subst (sigma [.int 1, .int 2, .int 3]) body3) exSt :=
  call_is_substitution_var 10 exCtx [] exWF "f" body3 3 3 [.int 1, .int 2, .int 3] (by decide) (by decide)
    (by decide) rfl rfl body3_body (stable_op2 _ _ _ _) rfl

-- on the failing call above
example : (eval 50 (.call (.sym "loc") ([Val.int 5].map .lit) 1) exSt).2.ctx.get "a" = exSt.ctx.get "a" :=
  locals_are_local 49 (.sym "loc") [.int 5] 1 exSt exWF locBody [.int 5] rfl "a" (Or.inr (Or.inl (by decide)))

example : (eval 50 (.call (.sym "loc") ([Val.int 5].map .lit) 1) exSt).2.ctx.scopes.map sig
    = exSt.ctx.scopes.map sig :=
  (call_frame_discipline 49 (.sym "loc") [.int 5] 1 exSt exWF (by
    intro f merged h
    have : prepare exSt.ctx (.sym "loc") (some ([Val.int 5].map .lit)) 1
        = .ok (some (locBody, some ([Val.int 5].map .lit))) := rfl
    rw [this] at h
    cases h
    exact ⟨[.int 5], rfl⟩)).1

/-- PROPERTY (witness, known finding `subst:symbol-member-defined`).  With `a::10` in the caller, the
    identity function applied to the symbol `:a` as a list member — through Each and through `@` —
    returns 10, not `:a`; an undefined symbol comes back as itself. -/
theorem symbol_member_counterexample :
    obsInts (eval 20 (.each (.fn (.sym "x") 1) (.lit (.list [.sym [97]]))) exSt).1 = some [10] ∧
    obsInt (eval 20 (.op2 "@" (.fn (.sym "x") 1) (.lit (.list [.sym [97]]))) exSt).1 = 10 ∧
    obsInts (eval 20 (.each (.fn (.sym "x") 1) (.lit (.list [.sym [113]]))) exSt).1 = none := by
  decide

-- the layer `(;2)` on the vector [_, _, 3] puts 2 at position 1 and nothing else
example : fillLayer [.hole, .hole, .lit (.int 3)] (relLayerFrom 0 [.hole, .hole, .lit (.int 3)] [(1, .lit (.int 2))])
    = [.hole, .lit (.int 2), .lit (.int 3)] := rfl

end Klong.C03
