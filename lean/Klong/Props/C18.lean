/-
  C18 — the concurrent FileCache machine `Klong.C18` (Model/C18.lean).  `step` is inverted once
  into transition relations, one per function of the model, and two invariants are carried along
  them: `StructInv` on every schedule (`lock_inv`), `Good` on the schedules that avoid the hazards
  `safe` excludes (`writers_serialised`, `lin_partial`).  The lock blocks preserve `Good` because
  they then act on a file of which no task is in flight (`Idle`).  That the excluded hazards are
  real is shown by running four schedules (`decide`).
-/
import Klong.Model.C18
import Klong.Props.Assoc
namespace Klong.C18
open Klong.Wire

/-! ## lists read through `getElem?` -/

theorem getElem?_lt {α} {l : List α} {i : Nat} {a : α} (h : l[i]? = some a) : i < l.length := by
  rcases List.getElem?_eq_some_iff.mp h with ⟨h, _⟩
  exact h

theorem getElem?_append_old {α} {l : List α} {i : Nat} {x a : α} (h : l[i]? = some x) :
    (l ++ [a])[i]? = some x := by
  rw [List.getElem?_append_left (getElem?_lt h)]
  exact h

theorem forall_append {α} {P : Nat → α → Prop} {l : List α} {a : α}
    (h : ∀ i x, l[i]? = some x → P i x) (ha : P l.length a) :
    ∀ i x, (l ++ [a])[i]? = some x → P i x := by
  intro i x hx
  by_cases hlt : i < l.length
  · exact h i x (by rwa [List.getElem?_append_left hlt] at hx)
  · have hi := getElem?_lt hx
    rw [List.length_append, List.length_singleton] at hi
    obtain rfl : i = l.length := by omega
    rw [List.getElem?_concat_length] at hx
    cases hx
    exact ha

theorem forall_set {α} {P : Nat → α → Prop} {l : List α} {k : Nat} {a : α}
    (h : ∀ i x, i ≠ k → l[i]? = some x → P i x) (ha : P k a) :
    ∀ i x, (l.set k a)[i]? = some x → P i x := by
  intro i x hx
  by_cases hk : i = k
  · subst hk
    rw [List.getElem?_set_self (by simpa using getElem?_lt hx)] at hx
    cases hx
    exact ha
  · exact h i x hk (by rwa [List.getElem?_set_ne (Ne.symm hk)] at hx)

/-! ## the disk, the entry table, the access list -/

theorem dget_dset (d : Disk) (n k : Name) (b : Bytes) :
    dget (dset d n b) k = if k = n then some b else dget d k :=
  lookup_cons_filter_ne

theorem dget_dset_same {d : Disk} {n : Name} {b : Bytes} : dget (dset d n b) n = some b := by
  simp [dget_dset]

theorem dget_dset_other {d : Disk} {n k : Name} {b : Bytes} (h : k ≠ n) :
    dget (dset d n b) k = dget d k := by
  simp [dget_dset, h]

theorem findE_name {es : List Entry} {n : Name} {e : Entry} (h : findE es n = some e) : e.name = n := by
  have := List.find?_some h
  simpa using this

theorem findE_mem {es : List Entry} {n : Name} {e : Entry} (h : findE es n = some e) : e ∈ es :=
  List.mem_of_find?_eq_some h

theorem findE_none_not_mem {es : List Entry} {n : Name} (h : findE es n = none) :
    n ∉ es.map (·.name) := by
  simp [findE] at h ⊢
  intro e he hn
  exact h e he hn

theorem findE_of_mem {es : List Entry} {e : Entry} (hnd : (es.map (·.name)).Nodup) (he : e ∈ es) :
    findE es e.name = some e := by
  induction es with
  | nil => cases he
  | cons a as ih =>
    simp only [List.map_cons, List.nodup_cons] at hnd
    rcases List.mem_cons.mp he with rfl | he'
    · simp [findE]
    · have hne : ¬ a.name = e.name := fun hh => hnd.1 (hh ▸ List.mem_map_of_mem he')
      simpa [findE, hne] using ih hnd.2 he'

theorem findE_delE (es : List Entry) (x n : Name) :
    findE (delE es x) n = if n = x then none else findE es n := by
  simp only [findE, delE, List.find?_filter]
  split
  · rename_i hn
    subst hn
    simp
  · rename_i hn
    congr 1
    funext a
    by_cases han : a.name = n <;> simp [han, hn]

theorem findE_setE (es : List Entry) (e : Entry) (n : Name) :
    findE (setE es e) n = if n = e.name then some e else findE es n := by
  by_cases h : n = e.name
  · subst h
    simp [setE, findE]
  · have h' : ¬ e.name = n := fun hh => h hh.symm
    have := findE_delE es e.name n
    simp only [findE] at this
    simp [setE, findE, h, h', this]

theorem findE_delE_some {es : List Entry} {x n : Name} {e : Entry} :
    findE (delE es x) n = some e ↔ n ≠ x ∧ findE es n = some e := by
  rw [findE_delE]
  split <;> simp [*]

theorem findE_setE_some {es : List Entry} {e e' : Entry} {n : Name} :
    findE (setE es e) n = some e' ↔ (n = e.name ∧ e' = e) ∨ (n ≠ e.name ∧ findE es n = some e') := by
  rw [findE_setE]
  split <;> simp [*, eq_comm]

theorem delE_of_none {es : List Entry} {n : Name} (h : findE es n = none) : delE es n = es :=
  List.filter_eq_self.mpr fun _ he =>
    bne_iff_ne.mpr fun hn => findE_none_not_mem h (hn ▸ List.mem_map_of_mem he)

theorem nodup_delE {es : List Entry} {x : Name} (h : (es.map (·.name)).Nodup) :
    ((delE es x).map (·.name)).Nodup :=
  (List.Sublist.map _ List.filter_sublist).nodup h

theorem nodup_setE {es : List Entry} {e : Entry} (h : (es.map (·.name)).Nodup) :
    ((setE es e).map (·.name)).Nodup := by
  simp only [setE, List.map_cons, List.nodup_cons]
  refine ⟨?_, nodup_delE h⟩
  simp [delE]

theorem nodup_touch {l : List Name} {x : Name} (h : l.Nodup) : (l.filter (· != x) ++ [x]).Nodup := by
  rw [List.nodup_append]
  refine ⟨List.filter_sublist.nodup h, by simp, ?_⟩
  intro a ha b hb
  simp at ha hb
  subst hb
  exact ha.2

/-! ## `unloadE` and `evict` in closed form; what the model's tests say when they succeed -/

/-- what `_unload_file(n)` subtracts from the byte total -/
def sizeAt (es : List Entry) (n : Name) : Int :=
  match findE es n with
  | some e => e.size
  | none => 0

theorem unloadE_eq (s : St) (n : Name) :
    unloadE s n = { s with mem := s.mem - sizeAt s.entries n, entries := delE s.entries n } := by
  cases hf : findE s.entries n with
  | some e => simp [unloadE, sizeAt, hf]
  | none =>
    cases s
    simp only [unloadE, sizeAt] at hf ⊢
    simp [hf, delE_of_none hf]

theorem evict_cons (s : St) (x : Name) (xs : List Name) :
    evict s (x :: xs) = evict { s with mem := s.mem - sizeAt s.entries x, entries := delE s.entries x
                                     , acc := s.acc.filter (· != x) } xs := by
  rw [evict, unloadE_eq]

/-- the byte total stays as `evict` computes it (no proof needs the sum), so the right side
    mentions `evict s ev` again: a lemma for `rw` -/
theorem evict_eq (s : St) (ev : List Name) :
    evict s ev = { s with mem := (evict s ev).mem
                        , entries := s.entries.filter (fun e => !ev.contains e.name)
                        , acc := s.acc.filter (fun x => !ev.contains x) } := by
  induction ev generalizing s with
  | nil =>
    cases s
    simp only [evict, List.contains_nil, Bool.not_false, St.mk.injEq, true_and, and_true]
    exact ⟨(List.filter_eq_self.mpr (by simp)).symm, (List.filter_eq_self.mpr (by simp)).symm⟩
  | cons x xs ih =>
    rw [evict_cons, ih]
    simp only [delE, List.filter_filter, St.mk.injEq, true_and, and_true]
    constructor
    · apply List.filter_congr
      intro a _
      by_cases h : a.name = x <;> simp [h]
    · apply List.filter_congr
      intro a _
      by_cases h : a = x <;> simp [h]

theorem evict_tasks (s : St) (ev : List Name) : (evict s ev).tasks = s.tasks := by
  rw [evict_eq]

theorem evict_max (s : St) (ev : List Name) : (evict s ev).max = s.max := by
  rw [evict_eq]

theorem mem_evict_entries {s : St} {ev : List Name} {e : Entry} :
    e ∈ (evict s ev).entries ↔ e ∈ s.entries ∧ e.name ∉ ev := by
  rw [evict_eq]
  simp

theorem mem_evict_acc {s : St} {ev : List Name} {x : Name} :
    x ∈ (evict s ev).acc ↔ x ∈ s.acc ∧ x ∉ ev := by
  rw [evict_eq]
  simp

theorem init_client {max : Nat} {disk : Disk} {progs : List (List Op)} {i : Nat} {c : Client}
    (hc : (init max disk progs).clients[i]? = some c) : ∃ ops, c = ⟨ops, .start, []⟩ := by
  simp only [init, List.getElem?_map, Option.map_eq_some_iff] at hc
  obtain ⟨ops, _, rfl⟩ := hc
  exact ⟨ops, rfl⟩

theorem taskRes_some {s : St} {f : Nat} {r : TRes} (h : taskRes s f = some r) :
    ∃ t, s.tasks[f]? = some t ∧ t.pc = .finished r := by
  unfold taskRes at h
  cases ht : s.tasks[f]? with
  | none => simp [ht] at h
  | some t =>
    refine ⟨t, rfl, ?_⟩
    cases hpc : t.pc <;> simp [ht, hpc] at h
    rw [h]

/-- a task of `n` in flight although `inflight s n lo = false`: only loads were asked about, and
    it is a write -/
theorem inflight_false {s : St} {n : Name} {lo : Bool} (h : inflight s n lo = false)
    {f : Nat} {t : Task} (ht : s.tasks[f]? = some t) (hn : t.name = n) (hp : t.pre = true) :
    lo = true ∧ t.wr.isSome = true := by
  have := List.any_eq_false.mp h t (List.mem_of_getElem? ht)
  cases hw : t.wr with
  | none => simp [hn, hp, hw] at this
  | some p => simpa [hn, hp, hw] using this

/-- the two clauses of `legalEv` the proofs use; the middle one (nothing is evicted unless the
    claim does not fit) is needed nowhere -/
theorem legalEv_parts {s : St} {ev : List Name} {claim : Nat} (h : legalEv s ev claim = true) :
    (∀ x, x ∈ ev → evictable s x = true) ∧
    ((evict s ev).mem + claim ≤ s.max ∨ ∀ x, x ∈ s.acc → evictable s x = true → x ∈ ev) := by
  unfold legalEv at h
  simp only [Bool.and_eq_true, List.all_eq_true, Bool.or_eq_true, decide_eq_true_eq] at h
  exact ⟨h.1.1, h.2.imp_right fun h3 x hx he => by simpa [he] using h3 x hx⟩

theorem quiescent_fin {s : St} (h : quiescent s = true) {f : Nat} {t : Task} (ht : s.tasks[f]? = some t) :
    ∃ r, t.pc = .finished r := by
  have := List.all_eq_true.mp (Bool.and_eq_true_iff.mp h).2 t (List.mem_of_getElem? ht)
  cases hpc : t.pc <;> simp [hpc] at this
  exact ⟨_, rfl⟩

/-! ## `step` as transition relations

`CTrans` for `cstep` (by head operation and program counter), `TTrans` for `tstep` (by program
counter), `Trans` for `step` (by who moves, which is what `safe` looks at).  The two lock blocks
that call `_unload_file` are stated through `unloadE_eq`. -/

inductive CTrans (s : St) (i : Nat) (c : Client) : Op → CPc → St → Prop
  | existsNF {n} : dget s.disk n = none →
      CTrans s i c (.get n) .start (finishOp s i c ⟨.notFound, none⟩)
  | existsOk {n b} : dget s.disk n = some b → CTrans s i c (.get n) .start (setPc s i c .gsize)
  | gsizeNF {n} : dget s.disk n = none →
      CTrans s i c (.get n) .gsize (finishOp s i c ⟨.notFound, none⟩)
  | gsizeMem {n b} : dget s.disk n = some b → b.length > s.max →
      CTrans s i c (.get n) .gsize (finishOp s i c ⟨.memErr, none⟩)
  | gsizeOk {n b} : dget s.disk n = some b → ¬ b.length > s.max →
      CTrans s i c (.get n) .gsize (setPc s i c (.glock b.length))
  | glockMiss {n claim} : findE s.entries n = none →
      CTrans s i c (.get n) (.glock claim)
        (setPc { s with entries := setE s.entries ⟨n, false, claim, s.tasks.length, false⟩
                      , tasks := s.tasks ++ [⟨n, none, .read⟩] } i c
          (.wait s.tasks.length none (dget s.reg n)))
  | glockHit {n claim e} : findE s.entries n = some e →
      CTrans s i c (.get n) (.glock claim)
        (setPc { s with acc := if (taskRes s e.fut).isSome then s.acc.filter (· != n) ++ [n] else s.acc }
          i c (.wait e.fut none (dget s.reg n)))
  | getWait {n f a exp r} : taskRes s f = some r →
      CTrans s i c (.get n) (.wait f a exp) (finishOp s i c ⟨resOfT r, exp⟩)
  | updMem {n d fs} : d.length > s.max →
      CTrans s i c (.update n d fs) .start (finishOp s i c ⟨.memErr, none⟩)
  | updBusy {n d fs e} : ¬ d.length > s.max → findE s.entries n = some e → e.writing = true →
      CTrans s i c (.update n d fs) .start (setPc s i c (.wait e.fut (some false) none))
  | updApply {n d fs} : ¬ d.length > s.max → (∀ e, findE s.entries n = some e → e.writing = false) →
      CTrans s i c (.update n d fs) .start
        (setPc { s with mem := s.mem - sizeAt s.entries n
                      , entries := setE (delE s.entries n) ⟨n, true, d.length, s.tasks.length, false⟩
                      , tasks := s.tasks ++ [⟨n, some (d, fs), .trunc⟩]
                      , reg := dset s.reg n d } i c (.wait s.tasks.length (some true) none))
  | updWaitOk {n d fs f a x v} : taskRes s f = some (.ok v) →
      CTrans s i c (.update n d fs) (.wait f a x) (finishOp s i c ⟨.applied (a.getD false), none⟩)
  | updWaitErr {n d fs f a x e} : taskRes s f = some (.err e) →
      CTrans s i c (.update n d fs) (.wait f a x) (finishOp s i c ⟨resOfT (.err e), none⟩)
  | unload {n} : CTrans s i c (.unload n) .start
        (finishOp { s with mem := s.mem - sizeAt s.entries n, entries := delE s.entries n
                         , acc := s.acc.filter (· != n) } i c ⟨.done, none⟩)

/-- `update_file_futures_and_memory` from the state `s` that `recover_memory` has left -/
inductive FinTrans (s : St) (f : Nat) (t : Task) (v : Bytes) : St → Prop
  | gone : findE s.entries t.name = none → FinTrans s f t v (setT s f t (.complete (.err .assertion)))
  | cache {e} : findE s.entries t.name = some e → s.mem + v.length ≤ s.max →
      FinTrans s f t v
        (setT { s with acc := s.acc.filter (· != t.name) ++ [t.name]
                     , mem := s.mem + v.length
                     , entries := setE s.entries ⟨t.name, false, v.length, e.fut, true⟩ }
          f t (.complete (.ok v)))
  | noCache {e} : findE s.entries t.name = some e → ¬ s.mem + v.length ≤ s.max →
      FinTrans s f t v (setT { s with entries := delE s.entries t.name } f t (.complete (.ok v)))

inductive TTrans (s : St) (f : Nat) (t : Task) : TPc → St → Prop
  | read {b} : dget s.disk t.name = some b → TTrans s f t .read (setT s f t (.fin b))
  | readNF : dget s.disk t.name = none → TTrans s f t .read (setT s f t (.complete (.err .notFound)))
  | trunc : TTrans s f t .trunc (setT { s with disk := dset s.disk t.name [] } f t .write)
  | write {d fs} : t.wr = some (d, fs) →
      TTrans s f t .write
        (setT { s with disk := dset s.disk t.name (overwrite ((dget s.disk t.name).getD []) d) } f t
          (if fs then .fsync else .fin d))
  | fsync {d fs} : t.wr = some (d, fs) → TTrans s f t .fsync (setT s f t (.fin d))
  | finBig {v} : v.length > s.max → TTrans s f t (.fin v) (setT s f t (.complete (.err .assertion)))
  | fin {v ev s'} : ¬ v.length > s.max → legalEv s ev v.length = true → FinTrans (evict s ev) f t v s' →
      TTrans s f t (.fin v) s'
  | complete {r} : TTrans s f t (.complete r) (setT s f t (.finished r))

inductive Trans (s s' : St) : Who → Prop
  | client {i c op rest pc} : s.clients[i]? = some c → c.ops = op :: rest → c.pc = pc →
      CTrans s i c op pc s' → Trans s s' (.client i)
  | task {f t pc} : s.tasks[f]? = some t → t.pc = pc → TTrans s f t pc s' → Trans s s' (.task f)

/-! In the four inversions below `fun_cases` gives one goal per leaf of the model function, in
source order; a leaf that returns `none` is closed by `rintro ⟨⟩`, which substitutes `s'` in the
others.  Each `next` names the leaf's hypotheses in the order they are met on the way down (`_` for
the variables bound by a pattern or a `let` in between). -/

theorem finBlock_trans {s s' : St} {f : Nat} {t : Task} {v : Bytes} {ev : List Name}
    (h : finBlock s f t v ev = some s') : TTrans s f t (.fin v) s' := by
  revert h
  fun_cases finBlock s f t v ev <;> rintro ⟨⟩
  -- the leaves of `finBlock` that return a state: the claim exceeds `max` (`hbig`), then, below the
  -- tests `hbig`, `hleg` (`legalEv`): no entry (`hf`), an entry and the claim fits (`hfit`), or not
  next hbig _ => exact .finBig hbig
  next hbig hleg _ hf => exact .fin hbig (by simpa using hleg) (.gone hf)
  next hbig hleg _ _ hf hfit => exact .fin hbig (by simpa using hleg) (.cache hf hfit)
  next hbig hleg _ _ hf hfit => exact .fin hbig (by simpa using hleg) (.noCache hf hfit)

theorem tstep_trans {s s' : St} {f : Nat} {t : Task} {ev : List Name}
    (ht : s.tasks[f]? = some t) (h : tstep s f t ev = some s') : Trans s s' (.task f) := by
  revert h
  fun_cases tstep s f t ev
  -- the eighth leaf of `tstep` is the arm `.fin v`, which is `finBlock`; the others return a literal:
  -- `.read` (file there: `hd`, or not), `.trunc`, `.write` and `.fsync` (the task's data: `hw`),
  -- `.complete`; `hpc` is the equation for `t.pc`
  case case8 hpc => exact fun h => .task ht hpc (finBlock_trans h)
  all_goals rintro ⟨⟩
  next hpc _ hd => exact .task ht hpc (.read hd)
  next hpc hd => exact .task ht hpc (.readNF hd)
  next hpc => exact .task ht hpc .trunc
  next hpc _ _ hw => exact .task ht hpc (.write hw)
  next hpc _ _ hw => exact .task ht hpc (.fsync hw)
  next hpc => exact .task ht hpc .complete

theorem cstep_trans {s s' : St} {i : Nat} {c : Client} (hc : s.clients[i]? = some c)
    (h : cstep s i c = some s') : Trans s s' (.client i) := by
  revert h
  fun_cases cstep s i c <;> rintro ⟨⟩
  -- the leaves of `cstep` that return a state, with `hops`, `hpc` the equations for `c.ops`, `c.pc`.
  -- `get`: `exists` and `getsize` (disk lookup `hd`, size test `hb`), the lock block (entry lookup
  -- `hf`), the wait (task result `hr`).  `update`: too big (`hd`), then the lock block, where the
  -- model's `let busy` (`hbusy` is the equation for it) is read as `updBusy` or `updApply`, then the
  -- wait.  `unload`.
  next hops hpc hd => exact .client hc hops hpc (.existsNF hd)
  next hops hpc _ hd => exact .client hc hops hpc (.existsOk hd)
  next hops hpc hd => exact .client hc hops hpc (.gsizeNF hd)
  next hops hpc _ hd hb => exact .client hc hops hpc (.gsizeMem hd hb)
  next hops hpc _ hd hb => exact .client hc hops hpc (.gsizeOk hd hb)
  next hops _ hpc hf _ => exact .client hc hops hpc (.glockMiss hf)
  next hops _ hpc _ hf _ => exact .client hc hops hpc (.glockHit hf)
  next hops _ _ _ hpc _ hr => exact .client hc hops hpc (.getWait hr)
  next hops hpc hd => exact .client hc hops hpc (.updMem hd)
  next n _ _ _ hops hpc hd busy f hbusy =>
    refine .client hc hops hpc ?_
    cases hf : findE s.entries n with
    | none => simp [busy, hf] at hbusy
    | some e =>
      by_cases hw : e.writing = true
      · obtain rfl : e.fut = f := by simpa [busy, hf, hw] using hbusy
        exact .updBusy hd hf hw
      · simp [busy, hf, hw] at hbusy
  next n _ fs _ hops hpc hd busy hbusy s1 f =>
    have hnw : ∀ e, findE s.entries n = some e → e.writing = false := by
      intro e he
      simpa [busy, he] using hbusy
    simpa [s1, f, unloadE_eq] using
      Trans.client hc hops hpc (CTrans.updApply (i := i) (c := c) (fs := fs) hd hnw)
  next hops _ _ _ hpc _ hr => exact .client hc hops hpc (.updWaitOk hr)
  next hops _ _ _ hpc _ hr => exact .client hc hops hpc (.updWaitErr hr)
  next n _ hops hpc s1 =>
    simpa [s1, unloadE_eq] using Trans.client hc hops hpc (CTrans.unload (i := i) (c := c) (n := n))

theorem step_trans {s s' : St} {st : Step} (h : step s st = some s') : Trans s s' st.who := by
  revert h
  fun_cases step s st
  -- of the six leaves of `step` the first (a client, found: `hc`, label and `ev` as they should be)
  -- and the fourth (likewise a task: `ht`) go on; `hw` is the equation for `st.who`
  case case1 hw _ hc _ =>
    rw [hw]
    exact cstep_trans hc
  case case4 hw _ ht _ =>
    rw [hw]
    exact tstep_trans ht
  all_goals nofun

/-! ## the structural invariant (all schedules) -/

structure StructInv (s : St) : Prop where
  nodupE : (s.entries.map (·.name)).Nodup
  nodupA : s.acc.Nodup
  entOk : ∀ n e, findE s.entries n = some e →
      ∃ t, s.tasks[e.fut]? = some t ∧ t.name = n ∧ (e.writing = true → t.wr.isSome = true ∧ t.pre = true)
  wrOk : ∀ (f : Nat) (t : Task) (d : Bytes) (fs : Bool), s.tasks[f]? = some t → t.wr = some (d, fs) →
      d.length ≤ s.max ∧ t.pc ≠ .read ∧ ∀ v, t.pc = .fin v → v = d
  waitOk : ∀ (i : Nat) (c : Client) (f : Nat) (a : Option Bool) (e : Option Bytes), s.clients[i]? = some c → c.pc = .wait f a e → f < s.tasks.length

/-! `StructInv`, clause by clause:
* `nodupE`, `nodupA`: no name twice among the entries, nor in the access list;
* `entOk`: an entry's future is a task of the same file; a `writing` entry's is a write task whose
  completion block has not run;
* `wrOk`: a write task carries at most `max` bytes, is never at `.read`, and hands its own data to
  the completion block (`.fin v → v = d`): why the block's `assert claim <= max_memory` cannot fail
  for a write (`finBig`) and why, under `Good`, what it caches is what is on disk;
* `waitOk`: clients wait on existing futures only. -/

/-- the clause of `StructInv` that speaks of one task -/
def WrOk (mx : Nat) (t : Task) : Prop :=
  ∀ d fs, t.wr = some (d, fs) → d.length ≤ mx ∧ t.pc ≠ .read ∧ ∀ v, t.pc = .fin v → v = d

theorem StructInv.wrOk_at {s : St} (h : StructInv s) {f : Nat} {t : Task} (ht : s.tasks[f]? = some t) :
    WrOk s.max t :=
  fun d fs => h.wrOk f t d fs ht

theorem struct_setClient {s : St} (h : StructInv s) (i : Nat) {c' : Client}
    (hc' : ∀ f a e, c'.pc = .wait f a e → f < s.tasks.length) :
    StructInv { s with clients := s.clients.set i c' } :=
  { h with
    waitOk := fun j c f a e hj =>
      forall_set (P := fun _ c => ∀ f a e, c.pc = .wait f a e → f < s.tasks.length)
        (fun j c _ hj f a e => h.waitOk j c f a e hj) hc' j c hj f a e }

theorem struct_finishOp {s : St} (h : StructInv s) (i : Nat) (c : Client) (r : Done) :
    StructInv (finishOp s i c r) :=
  struct_setClient h i (by rintro _ _ _ ⟨⟩)

theorem struct_setAcc {s : St} (h : StructInv s) {acc' : List Name} (hnd : acc'.Nodup) :
    StructInv { s with acc := acc' } :=
  { h with nodupA := hnd }

/-- an entry is dropped (`_unload_file`, one pop of `recover_memory`, a completion block whose
    claim does not fit) -/
theorem struct_drop {s : St} (h : StructInv s) (n : Name) {m' : Int} {acc' : List Name} (hnd : acc'.Nodup) :
    StructInv { s with mem := m', entries := delE s.entries n, acc := acc' } :=
  { h with
    nodupE := nodup_delE h.nodupE
    nodupA := hnd
    entOk := fun n' e' he' => h.entOk n' e' (findE_delE_some.mp he').2 }

theorem struct_evict {s : St} {ev : List Name} (h : StructInv s) : StructInv (evict s ev) := by
  induction ev generalizing s with
  | nil => exact h
  | cons x xs ih =>
    rw [evict_cons]
    exact ih (struct_drop h x (List.filter_sublist.nodup h.nodupA))

/-- a task is submitted for file `n` and a fresh entry of `n` points to it (a get that misses,
    an update that applies) -/
theorem struct_submit {s : St} {n : Name} {sz : Nat} {wr : Option (Bytes × Bool)} {pc0 : TPc}
    {m' : Int} {reg' : Disk} (h : StructInv s) (hpre : Task.pre ⟨n, wr, pc0⟩ = true)
    (hwr : WrOk s.max ⟨n, wr, pc0⟩) :
    StructInv { s with mem := m', entries := setE (delE s.entries n) ⟨n, wr.isSome, sz, s.tasks.length, false⟩
                     , tasks := s.tasks ++ [⟨n, wr, pc0⟩], reg := reg' } := by
  refine ⟨nodup_setE (nodup_delE h.nodupE), h.nodupA, ?_, ?_, ?_⟩
  · intro n' e' he'
    rcases findE_setE_some.mp he' with ⟨rfl, rfl⟩ | ⟨_, he'⟩
    · exact ⟨_, List.getElem?_concat_length, rfl, fun hw => ⟨hw, hpre⟩⟩
    · obtain ⟨t, ht, hn, hwt⟩ := h.entOk n' e' (findE_delE_some.mp he').2
      exact ⟨t, getElem?_append_old ht, hn, hwt⟩
  · intro f t d fs ht
    exact forall_append (P := fun _ t => WrOk s.max t) (fun _ _ ht => h.wrOk_at ht) hwr f t ht d fs
  · intro i c f a e hc hp
    simp only [List.length_append, List.length_singleton]
    exact Nat.lt_succ_of_lt (h.waitOk i c f a e hc hp)

theorem struct_setDisk {s : St} (h : StructInv s) (dk : Disk) : StructInv { s with disk := dk } :=
  ⟨h.nodupE, h.nodupA, h.entOk, h.wrOk, h.waitOk⟩

/-- a worker step; `hwr`: a write task never reads, hands its own data to the completion block,
    and stays in flight unless it had left already or its file's entry is not `writing` -/
theorem struct_setT {s : St} {f : Nat} {t : Task} {pc : TPc} (h : StructInv s)
    (ht : s.tasks[f]? = some t)
    (hwr : ∀ d fs, t.wr = some (d, fs) → (pc ≠ .read ∧ ∀ v, pc = .fin v → v = d) ∧
      (Task.pre { t with pc := pc } = true ∨ t.pre = false ∨
        ∀ e, findE s.entries t.name = some e → e.writing = false)) :
    StructInv (setT s f t pc) := by
  refine ⟨h.nodupE, h.nodupA, ?_, ?_, ?_⟩
  · intro n e he
    obtain ⟨t0, h0, hn, hw⟩ := h.entOk n e he
    by_cases hf : e.fut = f
    · rw [hf, ht] at h0
      cases h0
      have hset : (s.tasks.set f { t with pc := pc })[e.fut]? = some { t with pc := pc } := by
        rw [hf]
        exact List.getElem?_set_self (getElem?_lt ht)
      refine ⟨{ t with pc := pc }, hset, hn, fun hwe => ?_⟩
      obtain ⟨hs, hp⟩ := hw hwe
      obtain ⟨⟨d, fs⟩, hd⟩ := Option.isSome_iff_exists.mp hs
      refine ⟨hs, ?_⟩
      rcases (hwr d fs hd).2 with h1 | h1 | h1
      · exact h1
      · rw [hp] at h1
        cases h1
      · subst hn
        rw [h1 e he] at hwe
        cases hwe
    · exact ⟨t0, (List.getElem?_set_ne (Ne.symm hf)).trans h0, hn, hw⟩
  · intro f' t' d fs h'
    exact forall_set (P := fun _ t' => WrOk s.max t') (a := { t with pc := pc }) (fun _ _ _ h' => h.wrOk_at h')
      (fun d fs hw => ⟨(h.wrOk f t d fs ht hw).1, (hwr d fs hw).1⟩) f' t' h' d fs
  · intro i c f' a e hc hp
    simp only [setT, List.length_set]
    exact h.waitOk i c f' a e hc hp

theorem struct_fin {s s' : St} {f : Nat} {t : Task} {v : Bytes} (h : StructInv s)
    (ht : s.tasks[f]? = some t) (htr : FinTrans s f t v s') : StructInv s' := by
  cases htr with
  | gone hnone =>
    exact struct_setT h ht
      (fun _ _ _ => ⟨⟨nofun, nofun⟩, .inr (.inr fun e he => nomatch hnone.symm.trans he)⟩)
  | @cache e he _ =>
    obtain ⟨te, hte, hten, _⟩ := h.entOk _ _ he
    have h2 : StructInv { s with acc := s.acc.filter (· != t.name) ++ [t.name]
                               , mem := s.mem + v.length
                               , entries := setE s.entries ⟨t.name, false, v.length, e.fut, true⟩ } := by
      refine ⟨nodup_setE h.nodupE, nodup_touch h.nodupA, fun n' e' he' => ?_, h.wrOk, h.waitOk⟩
      rcases findE_setE_some.mp he' with ⟨rfl, rfl⟩ | ⟨_, he'⟩
      · exact ⟨te, hte, hten, nofun⟩
      · exact h.entOk n' e' he'
    refine struct_setT h2 ht (fun _ _ _ => ⟨⟨nofun, nofun⟩, .inr (.inr fun e' he' => ?_)⟩)
    rw [findE_setE, if_pos rfl] at he'
    cases he'
    rfl
  | noCache =>
    refine struct_setT (struct_drop (m' := s.mem) h t.name h.nodupA) ht
      (fun _ _ _ => ⟨⟨nofun, nofun⟩, .inr (.inr fun e' he' => ?_)⟩)
    rw [findE_delE, if_pos rfl] at he'
    cases he'

theorem struct_step {s s' : St} {w : Who} (h : StructInv s) (htr : Trans s s' w) : StructInv s' := by
  cases htr with
  | client hc hops hpc hm =>
    cases hm with
    | existsNF | gsizeNF | gsizeMem | getWait | updMem | updWaitOk | updWaitErr =>
      exact struct_finishOp h _ _ _
    | existsOk | gsizeOk => exact struct_setClient h _ (by rintro _ _ _ ⟨⟩)
    | updBusy _ hf =>
      obtain ⟨t, ht, _⟩ := h.entOk _ _ hf
      exact struct_setClient h _ (by
        rintro _ _ _ ⟨⟩
        exact getElem?_lt ht)
    | @glockHit n claim e hf =>
      obtain ⟨t, ht, _⟩ := h.entOk _ _ hf
      refine struct_setClient (struct_setAcc h ?_) _ (by
        rintro _ _ _ ⟨⟩
        exact getElem?_lt ht)
      split
      · exact nodup_touch h.nodupA
      · exact h.nodupA
    | @glockMiss n claim hf =>
      have := struct_submit (n := n) (sz := claim) (wr := none) (pc0 := .read) (m' := s.mem)
        (reg' := s.reg) h rfl nofun
      rw [delE_of_none hf] at this
      exact struct_setClient this _ (by
        rintro _ _ _ ⟨⟩
        simp)
    | @updApply n d fs hd =>
      refine struct_setClient (struct_submit (wr := some (d, fs)) h rfl ?_) _ (by
        rintro _ _ _ ⟨⟩
        simp)
      rintro _ _ ⟨⟩
      exact ⟨by omega, nofun, nofun⟩
    | unload => exact struct_finishOp (struct_drop h _ (List.filter_sublist.nodup h.nodupA)) _ _ _
  | @task f t pc ht hpc hm =>
    cases hm with
    | read | readNF =>
      exact struct_setT h ht (fun d fs hw => absurd hpc (h.wrOk f t d fs ht hw).2.1)
    | trunc => exact struct_setT (struct_setDisk h _) ht (fun _ _ _ => ⟨⟨nofun, nofun⟩, .inl rfl⟩)
    | @write d fs hw =>
      refine struct_setT (struct_setDisk h _) ht (fun d' fs' hw' => ?_)
      rw [hw] at hw'
      cases hw'
      cases fs
      · exact ⟨⟨nofun, fun v hv => (TPc.fin.inj hv).symm⟩, .inl rfl⟩
      · exact ⟨⟨nofun, nofun⟩, .inl rfl⟩
    | fsync hw =>
      refine struct_setT h ht (fun d' fs' hw' => ?_)
      rw [hw] at hw'
      cases hw'
      exact ⟨⟨nofun, fun v hv => (TPc.fin.inj hv).symm⟩, .inl rfl⟩
    | @finBig v hbig =>
      refine struct_setT h ht (fun d fs hw => ?_)
      obtain ⟨hle, _, hv⟩ := h.wrOk f t d fs ht hw
      rw [hv v hpc] at hbig
      omega
    | complete =>
      exact struct_setT h ht
        (fun _ _ _ => ⟨⟨nofun, nofun⟩, .inr (.inl (by simp [Task.pre, hpc]))⟩)
    | fin _ _ hm => exact struct_fin (struct_evict h) ((evict_tasks s _).symm ▸ ht) hm

theorem struct_init (max : Nat) (disk : Disk) (progs : List (List Op)) :
    StructInv (init max disk progs) := by
  refine ⟨by simp [init], by simp [init], ?_, ?_, ?_⟩
  · intro n e he
    simp [init, findE] at he
  · intro f t d fs ht
    simp [init] at ht
  · intro i c f a e hc hpc
    obtain ⟨ops, rfl⟩ := init_client hc
    cases hpc

theorem struct_run {s s' : St} (h : StructInv s) {sched : List Step}
    (hr : run s sched = some s') : StructInv s' := by
  induction sched generalizing s with
  | nil =>
    cases hr
    exact h
  | cons st rest ih =>
    rw [run] at hr
    split at hr
    · rename_i s1 h1
      exact ih (struct_step h (step_trans h1)) hr
    · cases hr

/-- **lock_inv**: for every number of clients, every program, every schedule (every
    interleaving of lock blocks, file-system calls, completions and waits) and every eviction
    choice, the state protected by the lock satisfies the structural invariant after every step:
    entry names and access-list names are duplicate-free, every entry's future is a task of the
    same file, an entry is marked `writing` only while its future is a write task whose
    completion block has not run, every write task carries at most `max` bytes, and every
    client waits on an existing future. -/
theorem lock_inv (max : Nat) (disk : Disk) (progs : List (List Op)) (sched : List Step) (s' : St)
    (h : run (init max disk progs) sched = some s') : StructInv s' :=
  struct_run (struct_init max disk progs) h

/-! ## the invariant of hazard-free schedules -/

/-- the value the future of task `t` will hold (its result if decided, the data for a write,
    the current file contents for a load that has not read yet) -/
def evVal (dk : Disk) (t : Task) : Option Bytes :=
  match t.pc with
  | .finished (.ok v) => some v
  | .complete (.ok v) => some v
  | .fin v => some v
  | .finished (.err _) => none
  | .complete (.err _) => none
  | .read => dget dk t.name
  | _ => t.wr.map (·.1)

def fits (mx : Nat) (dk : Disk) (n : Name) : Prop := ∃ b, dget dk n = some b ∧ b.length ≤ mx

def counted (es : List Entry) : Int := (es.map fun e => if e.counted then (e.size : Int) else 0).sum

structure EntOk (dk reg : Disk) (acc : List Name) (n : Name) (e : Entry) (t : Task) : Prop where
  val : evVal dk t = dget reg n
  pre : t.pre = true → e.counted = false ∧ (e.writing = true ↔ t.wr.isSome = true) ∧ (t.wr = none → n ∉ acc)
  post : t.pre = false → e.counted = true ∧ e.writing = false ∧ n ∈ acc ∧
          ∃ v, evVal dk t = some v ∧ e.size = v.length

structure ClOk (mx : Nat) (dk : Disk) (tasks : List Task) (c : Client) : Prop where
  fitL : ∀ n rest claim, c.ops = .get n :: rest → c.pc = .glock claim → fits mx dk n
  waitG : ∀ n rest f a exp, c.ops = .get n :: rest → c.pc = .wait f a exp →
      ∃ t, tasks[f]? = some t ∧ evVal dk t = exp
  res : ∀ r, r ∈ c.results → (∀ e, r.res ≠ .raised e) ∧ (∀ b, r.res = .data b → r.exp = some b)

structure Good (s : St) : Prop where
  st : StructInv s
  acct : s.mem = counted s.entries
  own : ∀ (f : Nat) (t : Task), s.tasks[f]? = some t → t.pre = true →
      ∃ e, findE s.entries t.name = some e ∧ e.fut = f
  ent : ∀ n e, findE s.entries n = some e → ∃ t, s.tasks[e.fut]? = some t ∧ EntOk s.disk s.reg s.acc n e t
  accE : ∀ x, x ∈ s.acc → (findE s.entries x).isSome = true
  noErr : ∀ (f : Nat) (t : Task), s.tasks[f]? = some t →
      ∀ e, t.pc ≠ .complete (.err e) ∧ t.pc ≠ .finished (.err e)
  kind : ∀ (f : Nat) (t : Task), s.tasks[f]? = some t →
      (t.pc = .trunc ∨ t.pc = .write ∨ t.pc = .fsync) → t.wr.isSome = true
  diskReg : ∀ n, (∀ (f : Nat) (t : Task), s.tasks[f]? = some t → t.name = n → t.wr.isSome = true → t.pre = false) →
      dget s.disk n = dget s.reg n
  written : ∀ (f : Nat) (t : Task) (d : Bytes) (fs : Bool), s.tasks[f]? = some t → t.wr = some (d, fs) →
      (t.pc = .fsync ∨ ∃ v, t.pc = .fin v) → dget s.disk t.name = some d
  trunced : ∀ (f : Nat) (t : Task), s.tasks[f]? = some t → t.pc = .write → dget s.disk t.name = some []
  fitT : ∀ (f : Nat) (t : Task), s.tasks[f]? = some t →
      (t.pc = .read → fits s.max s.disk t.name) ∧ (∀ v, t.pc = .fin v → v.length ≤ s.max)
  cl : ∀ (i : Nat) (c : Client), s.clients[i]? = some c → ClOk s.max s.disk s.tasks c

/-! `Good`, clause by clause:
* `acct`: the byte total is the sum over the entries whose ghost flag `counted` says a completion
  block has added them;
* `own`: a task in flight (`Task.pre`) owns its file's entry, hence at most one per file
  (`Good.uniq`);
* `ent`/`EntOk`, for the entry `e` of `n` with future `t`: `t` will hold (`evVal`) the register's
  value (`val`); in flight (`pre`) `e` is uncounted, `writing` iff `t` writes, and a load's file is
  not yet in the access list; afterwards (`post`) `e` is counted, not `writing`, in the access list,
  with the value's length as byte count;
* `accE`: `recover_memory` pops no stale name;
* `noErr`, `kind`: no task fails; only writes are at `trunc`/`write`/`fsync`;
* `diskReg`: disk = register at `n` once no write of `n` is in flight;
* `written`: past its `write` a task's data are on disk;
* `trunced`: a task about to `write` finds the file empty (`write` overwrites from offset 0
  whatever is there, so this is what leaves exactly its data);
* `fitT`: what a load reads, and what a completion block is handed, fits the limit;
* `cl`/`ClOk`: a get at the lock has a file that fits (`fitL`); a waiting get's future will hold the
  register value it saw under the lock, the ghost `exp` (`waitG`); no result is an exception, and
  returned data are `exp` (`res`). -/

theorem Good.uniq {s : St} (h : Good s) {f1 f2 : Nat} {t1 t2 : Task}
    (h1 : s.tasks[f1]? = some t1) (h2 : s.tasks[f2]? = some t2)
    (p1 : t1.pre = true) (p2 : t2.pre = true) (hn : t1.name = t2.name) : f1 = f2 := by
  obtain ⟨e1, he1, hf1⟩ := h.own f1 t1 h1 p1
  obtain ⟨e2, he2, hf2⟩ := h.own f2 t2 h2 p2
  rw [hn, he2] at he1
  cases he1
  rw [← hf1, ← hf2]

theorem Good.owned {s : St} (h : Good s) {f : Nat} {t : Task} (ht : s.tasks[f]? = some t) (hp : t.pre = true) :
    ∃ e, findE s.entries t.name = some e ∧ e.fut = f ∧ EntOk s.disk s.reg s.acc t.name e t := by
  obtain ⟨e, he, hf⟩ := h.own f t ht hp
  obtain ⟨t', ht', hok⟩ := h.ent _ e he
  rw [hf, ht] at ht'
  cases ht'
  exact ⟨e, he, hf, hok⟩

/-- the five clauses of `Good` that speak of one task at a time -/
structure TaskOk (mx : Nat) (dk : Disk) (t : Task) : Prop where
  noErr : ∀ e, t.pc ≠ .complete (.err e) ∧ t.pc ≠ .finished (.err e)
  kind : (t.pc = .trunc ∨ t.pc = .write ∨ t.pc = .fsync) → t.wr.isSome = true
  written : ∀ d fs, t.wr = some (d, fs) → (t.pc = .fsync ∨ ∃ v, t.pc = .fin v) → dget dk t.name = some d
  trunced : t.pc = .write → dget dk t.name = some []
  fitT : (t.pc = .read → fits mx dk t.name) ∧ (∀ v, t.pc = .fin v → v.length ≤ mx)

theorem Good.taskOk {s : St} (h : Good s) {f : Nat} {t : Task} (ht : s.tasks[f]? = some t) :
    TaskOk s.max s.disk t :=
  ⟨h.noErr f t ht, h.kind f t ht, fun d fs => h.written f t d fs ht, h.trunced f t ht, h.fitT f t ht⟩

theorem Good.of_taskOk {s : St} (st : StructInv s) (acct : s.mem = counted s.entries)
    (own : ∀ (f : Nat) (t : Task), s.tasks[f]? = some t → t.pre = true →
      ∃ e, findE s.entries t.name = some e ∧ e.fut = f)
    (ent : ∀ n e, findE s.entries n = some e → ∃ t, s.tasks[e.fut]? = some t ∧ EntOk s.disk s.reg s.acc n e t)
    (accE : ∀ x, x ∈ s.acc → (findE s.entries x).isSome = true)
    (diskReg : ∀ n,
      (∀ (f : Nat) (t : Task), s.tasks[f]? = some t → t.name = n → t.wr.isSome = true → t.pre = false) →
      dget s.disk n = dget s.reg n)
    (tk : ∀ (f : Nat) (t : Task), s.tasks[f]? = some t → TaskOk s.max s.disk t)
    (cl : ∀ (i : Nat) (c : Client), s.clients[i]? = some c → ClOk s.max s.disk s.tasks c) : Good s :=
  ⟨st, acct, own, ent, accE, fun f t ht => (tk f t ht).noErr, fun f t ht => (tk f t ht).kind,
   diskReg, fun f t d fs ht => (tk f t ht).written d fs, fun f t ht => (tk f t ht).trunced,
   fun f t ht => (tk f t ht).fitT, cl⟩

theorem EntOk.congr {dk dk' reg reg' : Disk} {acc acc' : List Name} {n : Name} {e : Entry} {t t' : Task}
    (h : EntOk dk reg acc n e t) (hv : evVal dk' t' = evVal dk t) (hr : dget reg' n = dget reg n)
    (hp : t'.pre = t.pre) (hw : t'.wr = t.wr) (ha : n ∈ acc' ↔ n ∈ acc) : EntOk dk' reg' acc' n e t' := by
  refine ⟨?_, ?_, ?_⟩
  · rw [hv, hr]
    exact h.val
  · rw [hp, hw, ha]
    exact h.pre
  · rw [hp, hv, ha]
    exact h.post

theorem EntOk.acc {dk reg : Disk} {acc acc' : List Name} {n : Name} {e : Entry} {t : Task}
    (h : EntOk dk reg acc n e t) (ha : n ∈ acc' ↔ n ∈ acc) : EntOk dk reg acc' n e t :=
  h.congr rfl rfl rfl rfl ha

theorem evVal_disk {dk dk' : Disk} {t : Task}
    (h : t.pc = .read → dget dk' t.name = dget dk t.name) : evVal dk' t = evVal dk t := by
  unfold evVal
  split <;> first | rfl | (rename_i hpc; exact h hpc)

theorem good_init (max : Nat) (disk : Disk) (progs : List (List Op)) :
    Good (init max disk progs) := by
  refine Good.of_taskOk (struct_init max disk progs) (by simp [init, counted]) ?_ ?_ (by simp [init])
    (fun _ _ => rfl) ?_ ?_
  · intro f t ht
    simp [init] at ht
  · intro n e he
    simp [init, findE] at he
  · intro f t ht
    simp [init] at ht
  · intro i c hc
    obtain ⟨ops, rfl⟩ := init_client hc
    exact ⟨by rintro _ _ _ _ ⟨⟩, by rintro _ _ _ _ _ _ ⟨⟩, by rintro _ ⟨⟩⟩

/-! ## accounting lemmas -/

theorem counted_cons (e : Entry) (es : List Entry) :
    counted (e :: es) = (if e.counted then (e.size : Int) else 0) + counted es := by
  simp [counted]

def countedAt (es : List Entry) (n : Name) : Int :=
  match findE es n with
  | some e => if e.counted then (e.size : Int) else 0
  | none => 0

theorem counted_delE {es : List Entry} {n : Name} (hnd : (es.map (·.name)).Nodup) :
    counted (delE es n) = counted es - countedAt es n := by
  induction es with
  | nil => rfl
  | cons a as ih =>
    simp only [List.map_cons, List.nodup_cons] at hnd
    by_cases han : a.name = n
    · -- `a` is the entry of `n`, and by `hnd` the only one
      have hnone : findE as n = none := by
        cases hf : findE as n with
        | none => rfl
        | some e => exact absurd (List.mem_map.mpr ⟨e, findE_mem hf, (findE_name hf).trans han.symm⟩) hnd.1
      have hdel : delE (a :: as) n = as := by simpa [delE, han] using delE_of_none hnone
      rw [hdel, counted_cons]
      simp [countedAt, findE, han]
      omega
    · have hdel : delE (a :: as) n = a :: delE as n := by simp [delE, han]
      have hcnt : countedAt (a :: as) n = countedAt as n := by simp [countedAt, findE, han]
      rw [hdel, counted_cons, counted_cons, ih hnd.2, hcnt]
      omega

theorem counted_setE {es : List Entry} {e : Entry} (hnd : (es.map (·.name)).Nodup) :
    counted (setE es e) = counted es - countedAt es e.name + (if e.counted then (e.size : Int) else 0) := by
  simp only [setE, counted_cons, counted_delE hnd]
  omega

theorem countedAt_eq_sizeAt {es : List Entry} {n : Name} (h : ∀ e, findE es n = some e → e.counted = true) :
    countedAt es n = sizeAt es n := by
  unfold countedAt sizeAt
  split
  · rename_i e he
    simp [h e he]
  · rfl

theorem counted_zero {es : List Entry} (h : ∀ e, e ∈ es → e.counted = false) : counted es = 0 := by
  induction es with
  | nil => rfl
  | cons a as ih =>
    rw [counted_cons, ih (fun e he => h e (by simp [he])), h a (by simp)]
    simp

theorem counted_nonneg (es : List Entry) : 0 ≤ counted es := by
  induction es with
  | nil => simp [counted]
  | cons a as ih =>
    rw [counted_cons]
    split <;> omega

/-! ## preservation of `Good`: a client moves -/

theorem ClOk.frame {mx : Nat} {dk dk' : Disk} {ts ts' : List Task} {c : Client}
    (hf : ∀ n, fits mx dk n → fits mx dk' n)
    (hs : ∀ (f : Nat) (t : Task), ts[f]? = some t → ∃ t', ts'[f]? = some t' ∧ evVal dk' t' = evVal dk t)
    (h : ClOk mx dk ts c) : ClOk mx dk' ts' c := by
  refine ⟨fun n rest claim ho hp => hf n (h.fitL n rest claim ho hp), ?_, h.res⟩
  intro n rest f a exp ho hp
  obtain ⟨t, ht, hv⟩ := h.waitG n rest f a exp ho hp
  obtain ⟨t', ht', hv'⟩ := hs f t ht
  exact ⟨t', ht', by rw [hv', hv]⟩

theorem ClOk.finish {mx : Nat} {dk : Disk} {ts : List Task} {c : Client} {r : Done}
    (h : ClOk mx dk ts c)
    (hr : (∀ e, r.res ≠ .raised e) ∧ (∀ b, r.res = .data b → r.exp = some b)) :
    ClOk mx dk ts ⟨c.ops.tail, .start, c.results ++ [r]⟩ := by
  refine ⟨by rintro _ _ _ _ ⟨⟩, by rintro _ _ _ _ _ _ ⟨⟩, fun r' hr' => ?_⟩
  rcases List.mem_append.mp hr' with hr' | hr'
  · exact h.res r' hr'
  · rw [List.mem_singleton.mp hr']
    exact hr

theorem good_clients {s : St} {i : Nat} {c' : Client} (h : Good s)
    (hst : StructInv { s with clients := s.clients.set i c' })
    (hc' : ClOk s.max s.disk s.tasks c') : Good { s with clients := s.clients.set i c' } :=
  { h with st := hst, cl := forall_set (fun j c _ hj => h.cl j c hj) hc' }

/-! ## preservation of `Good`: a task moves -/

/-- how a worker step may change the disk: not at all at `n`, or (for the file of an in-flight
    write task) to contents that fit the limit -/
def DiskStep (s : St) (t : Task) (dk : Disk) : Prop :=
  ∀ n, dget dk n = dget s.disk n ∨ (n = t.name ∧ t.pre = true ∧ t.wr.isSome = true ∧ fits s.max dk n)

theorem DiskStep_dset {s : St} {t : Task} (d : Bytes) (hp : t.pre = true) (hw : t.wr.isSome = true)
    (hd : d.length ≤ s.max) : DiskStep s t (dset s.disk t.name d) := by
  intro n
  by_cases hn : n = t.name
  · subst hn
    exact .inr ⟨rfl, hp, hw, d, dget_dset_same, hd⟩
  · exact .inl (dget_dset_other hn)

theorem fits_diskStep {s : St} {t : Task} {dk : Disk} (hd : DiskStep s t dk) (n : Name)
    (h : fits s.max s.disk n) : fits s.max dk n := by
  rcases hd n with heq | ⟨_, _, _, hf⟩
  · rw [fits, heq]
    exact h
  · exact hf

/-- a worker step that keeps the task in flight, or keeps it decided.  A caller that leaves the
    disk alone says `(dk := s.disk)`: `{ s with disk := s.disk }` is `s` by eta only, which
    unification does not find. -/
theorem good_setT {s : St} {f : Nat} {t : Task} {pc : TPc} {dk : Disk} (h : Good s)
    (hst : StructInv (setT { s with disk := dk } f t pc))
    (ht : s.tasks[f]? = some t)
    (hpre : Task.pre { t with pc := pc } = t.pre)
    (hval : evVal dk { t with pc := pc } = evVal s.disk t)
    (hdk : DiskStep s t dk)
    (htk : TaskOk s.max dk { t with pc := pc }) :
    Good (setT { s with disk := dk } f t pc) := by
  -- two in-flight tasks of one file are one (`uniq`), so the disk step touches no other task's file
  have hother : ∀ (f' : Nat) (t' : Task), f' ≠ f → s.tasks[f']? = some t' → t'.pre = true →
      dget dk t'.name = dget s.disk t'.name :=
    fun f' t' hff h' hp' => (hdk t'.name).resolve_right fun ⟨hn, hp, _⟩ => hff (h.uniq h' ht hp' hp hn)
  have hkeep : ∀ (f' : Nat) (t' : Task), s.tasks[f']? = some t' →
      ∃ t'', (s.tasks.set f { t with pc := pc })[f']? = some t'' ∧
        evVal dk t'' = evVal s.disk t' ∧ t''.pre = t'.pre ∧ t''.wr = t'.wr ∧ t''.name = t'.name := by
    intro f' t' h'
    by_cases hff : f' = f
    · subst hff
      rw [ht] at h'
      cases h'
      exact ⟨_, List.getElem?_set_self (getElem?_lt ht), hval, hpre, rfl, rfl⟩
    · exact ⟨t', (List.getElem?_set_ne (Ne.symm hff)).trans h',
        evVal_disk fun hread => hother f' t' hff h' (by simp [Task.pre, hread]), rfl, rfl, rfl⟩
  simp only [setT] at hst ⊢
  refine Good.of_taskOk hst h.acct ?own ?ent h.accE ?diskReg
    (forall_set (fun f' t' hff h' => ?other) htk) ?cl
  case own => exact forall_set (fun f' t' _ h' => h.own f' t' h') (fun hp => h.own f t ht (hpre ▸ hp))
  case ent =>
    intro n e he
    obtain ⟨t0, h0, hok⟩ := h.ent n e he
    obtain ⟨t'', h'', hv, hp, hw, _⟩ := hkeep _ _ h0
    exact ⟨t'', h'', hok.congr hv rfl hp hw Iff.rfl⟩
  case diskReg =>
    intro n hH
    show dget dk n = dget s.reg n
    have hidle : ∀ (f' : Nat) (t' : Task), s.tasks[f']? = some t' → t'.name = n → t'.wr.isSome = true →
        t'.pre = false := by
      intro f' t' h' hn hw
      obtain ⟨t'', h'', _, hp, hw', hn'⟩ := hkeep _ _ h'
      rw [← hp]
      exact hH f' t'' h'' (hn'.trans hn) (hw' ▸ hw)
    rcases hdk n with heq | ⟨hn, hp, hw, _⟩
    · rw [heq]
      exact h.diskReg n hidle
    · rw [hidle f t ht hn.symm hw] at hp
      cases hp
  case other =>
    have hk := h.taskOk h'
    have heq := hother f' t' hff h'
    refine ⟨hk.noErr, hk.kind, fun d fs hw hpc => ?_, fun hpc => ?_,
      fun hr => fits_diskStep hdk _ (hk.fitT.1 hr), hk.fitT.2⟩
    · rw [heq (by rcases hpc with hpc | ⟨v, hpc⟩ <;> simp [Task.pre, hpc])]
      exact hk.written d fs hw hpc
    · rw [heq (by simp [Task.pre, hpc])]
      exact hk.trunced hpc
  case cl =>
    intro i c hc
    show ClOk s.max dk (s.tasks.set f { t with pc := pc }) c
    exact ClOk.frame (fits_diskStep hdk)
      (fun f' t' h' => (hkeep f' t' h').imp fun _ hh => ⟨hh.1, hh.2.1⟩) (h.cl i c hc)

/-! ## preservation of `Good`: the lock blocks -/

def Idle (s : St) (n : Name) : Prop :=
  ∀ (f : Nat) (t : Task), s.tasks[f]? = some t → t.pre = true → t.name ≠ n

theorem Good.counted_of_idle {s : St} {n : Name} {e : Entry} (h : Good s) (hi : Idle s n)
    (he : findE s.entries n = some e) : e.counted = true := by
  obtain ⟨t, ht, hok⟩ := h.ent n e he
  obtain ⟨t0, ht0, htn, _⟩ := h.st.entOk n e he
  rw [ht] at ht0
  cases ht0
  exact (hok.post (Bool.eq_false_iff.mpr fun hp => hi _ t ht hp htn)).1

theorem Good.diskReg_of_idle {s : St} {n : Name} (h : Good s) (hi : Idle s n) :
    dget s.disk n = dget s.reg n :=
  h.diskReg n (fun f t ht hn _ => Bool.eq_false_iff.mpr fun hp => hi f t ht hp hn)

theorem good_acc {s : St} {acc' : List Name} (h : Good s) (hnd : acc'.Nodup) (ha : ∀ x, x ∈ acc' ↔ x ∈ s.acc) :
    Good { s with acc := acc' } :=
  { h with
    st := struct_setAcc h.st hnd
    ent := fun n e he => (h.ent n e he).imp fun _ ht => ⟨ht.1, ht.2.acc (ha n)⟩
    accE := fun x hx => h.accE x ((ha x).mp hx) }

/-- an idle file is dropped from the cache: `unload_file`, and every pop of `recover_memory` -/
theorem good_drop {s : St} {n : Name} (h : Good s) (hi : Idle s n) :
    Good { s with mem := s.mem - sizeAt s.entries n, entries := delE s.entries n
                , acc := s.acc.filter (· != n) } := by
  refine { h with st := struct_drop h.st n (List.filter_sublist.nodup h.st.nodupA),
                   acct := ?_, own := ?_, ent := ?_, accE := ?_ }
  · show s.mem - sizeAt s.entries n = counted (delE s.entries n)
    rw [counted_delE h.st.nodupE, h.acct, countedAt_eq_sizeAt (fun e => h.counted_of_idle hi)]
  · intro f t ht hp
    obtain ⟨e, he, hf⟩ := h.own f t ht hp
    exact ⟨e, findE_delE_some.mpr ⟨hi _ _ ht hp, he⟩, hf⟩
  · intro n' e' he'
    obtain ⟨hne, he⟩ := findE_delE_some.mp he'
    obtain ⟨t, ht, hok⟩ := h.ent n' e' he
    exact ⟨t, ht, hok.acc (by simp [hne])⟩
  · intro x hx
    obtain ⟨hx, hne⟩ := List.mem_filter.mp hx
    simpa [findE_delE, bne_iff_ne.mp hne] using h.accE x hx

theorem good_evict {s : St} (h : Good s) {ev : List Name} (hi : ∀ x, x ∈ ev → Idle s x) :
    Good (evict s ev) := by
  induction ev generalizing s with
  | nil => exact h
  | cons x xs ih =>
    rw [evict_cons]
    exact ih (good_drop h (hi x (by simp))) (fun y hy => hi y (by simp [hy]))

/-- `_unload_file(n)`, a fresh entry, and a submitted task for the idle file `n` -/
theorem good_submit {s : St} {n : Name} {sz : Nat} {wr : Option (Bytes × Bool)} {pc0 : TPc} {reg' : Disk}
    (h : Good s) (hi : Idle s n)
    (hpre : Task.pre ⟨n, wr, pc0⟩ = true) (hacc : wr = none → n ∉ s.acc)
    (hval : evVal s.disk ⟨n, wr, pc0⟩ = dget reg' n)
    (hreg : ∀ k, (k = n → wr = none) → dget reg' k = dget s.reg k)
    (hwr : WrOk s.max ⟨n, wr, pc0⟩) (htk : TaskOk s.max s.disk ⟨n, wr, pc0⟩) :
    Good { s with mem := s.mem - sizeAt s.entries n
                , entries := setE (delE s.entries n) ⟨n, wr.isSome, sz, s.tasks.length, false⟩
                , tasks := s.tasks ++ [⟨n, wr, pc0⟩], reg := reg' } := by
  refine Good.of_taskOk (struct_submit h.st hpre hwr) ?_ ?_ ?_ ?_ ?_
    (forall_append (fun f t ht => h.taskOk ht) htk)
    (fun i c hc => ClOk.frame (fun _ hh => hh) (fun _ t h0 => ⟨t, getElem?_append_old h0, rfl⟩)
      (h.cl i c hc))
  · show s.mem - sizeAt s.entries n = counted (setE (delE s.entries n) ⟨n, wr.isSome, sz, s.tasks.length, false⟩)
    rw [counted_setE (nodup_delE h.st.nodupE), counted_delE h.st.nodupE, h.acct,
      countedAt_eq_sizeAt (fun e => h.counted_of_idle hi)]
    simp [countedAt, findE_delE]
  · refine forall_append (fun f t ht hp => ?_) (fun _ => ⟨_, findE_setE_some.mpr (.inl ⟨rfl, rfl⟩), rfl⟩)
    obtain ⟨e, he, hf⟩ := h.own f t ht hp
    have hne := hi _ _ ht hp
    exact ⟨e, findE_setE_some.mpr (.inr ⟨hne, findE_delE_some.mpr ⟨hne, he⟩⟩), hf⟩
  · intro n' e' he'
    rcases findE_setE_some.mp he' with ⟨rfl, rfl⟩ | ⟨hne, he'⟩
    · refine ⟨_, List.getElem?_concat_length, hval, fun _ => ⟨rfl, Iff.rfl, hacc⟩, fun hp => ?_⟩
      rw [hpre] at hp
      cases hp
    · obtain ⟨t, ht, hok⟩ := h.ent n' e' (findE_delE_some.mp he').2
      exact ⟨t, getElem?_append_old ht, hok.congr rfl (hreg n' (fun hh => absurd hh hne)) rfl rfl Iff.rfl⟩
  · intro x hx
    by_cases hxn : x = n <;> simp [findE_setE, findE_delE, hxn, h.accE x hx]
  · intro n' hH
    show dget s.disk n' = dget reg' n'
    -- a submitted write is in flight, so `hH` can only speak of a file that is not being written
    have hnw : n' = n → wr = none := by
      rintro rfl
      cases hwr : wr with
      | none => rfl
      | some p =>
        have := hH s.tasks.length _ List.getElem?_concat_length rfl (by simp [hwr])
        rw [hpre] at this
        cases this
    rw [hreg n' hnw]
    exact h.diskReg n' (fun f t ht hn hw => hH f t (getElem?_append_old ht) hn hw)

/-! ## the completion block under `Good` -/

/-- what `recover_memory` may pop is idle: an in-flight task owns its file's entry, and that entry
    is `writing` (a write) or its name is not in the access list (a load) -/
theorem Good.idle_of_evictable {s : St} {x : Name} (h : Good s) (hx : evictable s x = true) : Idle s x := by
  intro f t ht hp hn
  subst hn
  obtain ⟨e, he, _, hok⟩ := h.owned ht hp
  obtain ⟨_, hiff, hnacc⟩ := hok.pre hp
  simp only [evictable, he, Bool.and_eq_true, List.contains_iff_mem, Bool.not_eq_true'] at hx
  cases hw : t.wr with
  | none => exact hnacc hw hx.1
  | some p =>
    have := hiff.mpr (by simp [hw])
    rw [hx.2] at this
    cases this

theorem good_legalEv {s : St} (h : Good s) {ev : List Name} {claim : Nat} (hleg : legalEv s ev claim = true) :
    Good (evict s ev) :=
  good_evict h (fun x hx => h.idle_of_evictable ((legalEv_parts hleg).1 x hx))

/-- the completion block finds that the claim fits: either `legalEv` says so, or everything
    evictable has been evicted, and then nothing counted is left -/
theorem fin_fits {s : St} (h : Good s) {f : Nat} {t : Task} {v : Bytes} {ev : List Name}
    (ht : s.tasks[f]? = some t) (hpc : t.pc = .fin v) (hleg : legalEv s ev v.length = true) :
    (evict s ev).mem + v.length ≤ s.max := by
  have h1 := good_legalEv h hleg
  rcases (legalEv_parts hleg).2 with hfit | hex
  · exact hfit
  · have hz : counted (evict s ev).entries = 0 := by
      refine counted_zero (fun e' he' => ?_)
      cases hc : e'.counted with
      | false => rfl
      | true =>
        have hf1 := findE_of_mem h1.st.nodupE he'
        obtain ⟨t', ht', hok⟩ := h1.ent _ e' hf1
        cases hp : t'.pre with
        | true =>
          have := (hok.pre hp).1
          rw [hc] at this
          cases this
        | false =>
          obtain ⟨_, hw, hacc, _⟩ := hok.post hp
          obtain ⟨hacc, hnotin⟩ := mem_evict_acc.mp hacc
          have hfs := findE_of_mem h.st.nodupE (mem_evict_entries.mp he').1
          exact absurd (hex _ hacc (by simp [evictable, hacc, hfs, hw])) hnotin
    rw [h1.acct, hz]
    have := (h.fitT f t ht).2 v hpc
    omega

/-- the completion block once `recover_memory` has made room: under `Good` the task's entry is
    there and the claim fits, so only the caching branch runs -/
theorem good_fin {s s' : St} {f : Nat} {t : Task} {v : Bytes} (h : Good s) (hst : StructInv s')
    (ht : s.tasks[f]? = some t) (hpc : t.pc = .fin v) (hfit : s.mem + v.length ≤ s.max)
    (htr : FinTrans s f t v s') : Good s' := by
  have hp : t.pre = true := by simp [Task.pre, hpc]
  obtain ⟨e, he, hfut, hok0⟩ := h.owned ht hp
  cases htr with
  | gone hnone =>
    rw [hnone] at he
    cases he
  | noCache _ hnfit => exact absurd hfit hnfit
  | cache he0 =>
    rw [he] at he0
    cases he0
    have hregv : dget s.reg t.name = some v := by
      rw [← hok0.val]
      simp [evVal, hpc]
    have hself : (s.tasks.set f { t with pc := .complete (.ok v) })[f]? = some { t with pc := .complete (.ok v) } :=
      List.getElem?_set_self (getElem?_lt ht)
    have hold : ∀ (f' : Nat) (t' : Task), f' ≠ f → s.tasks[f']? = some t' →
        (s.tasks.set f { t with pc := .complete (.ok v) })[f']? = some t' :=
      fun f' t' hff h' => (List.getElem?_set_ne (Ne.symm hff)).trans h'
    simp only [setT] at hst ⊢
    refine Good.of_taskOk hst ?acct ?own ?ent ?accE ?diskReg ?tk ?cl
    case acct =>
      show s.mem + v.length = counted (setE s.entries ⟨t.name, false, v.length, e.fut, true⟩)
      rw [counted_setE h.st.nodupE, h.acct]
      simp [countedAt, he, (hok0.pre hp).1]
    case own =>
      refine forall_set (fun f' t' hff h' hp' => ?_) (fun hp' => by simp [Task.pre] at hp')
      obtain ⟨e', he', hf'⟩ := h.own f' t' h' hp'
      exact ⟨e', findE_setE_some.mpr (.inr ⟨fun hn => hff (h.uniq h' ht hp' hp hn), he'⟩), hf'⟩
    case ent =>
      intro n' e' he'
      rcases findE_setE_some.mp he' with ⟨rfl, rfl⟩ | ⟨hne, he'⟩
      · refine ⟨{ t with pc := .complete (.ok v) }, ?_, ?_, fun hp' => by simp [Task.pre] at hp',
          fun _ => ⟨rfl, rfl, by simp, v, by simp [evVal], rfl⟩⟩
        · rw [hfut]
          exact hself
        · rw [hregv]
          rfl
      · obtain ⟨t1, ht1, hok⟩ := h.ent n' e' he'
        obtain ⟨t2, ht2, htn, _⟩ := h.st.entOk n' e' he'
        rw [ht1] at ht2
        cases ht2
        have hef : e'.fut ≠ f := fun hh => by
          rw [hh, ht] at ht1
          cases ht1
          exact hne htn.symm
        exact ⟨t1, hold _ _ hef ht1, hok.acc (by simp [hne])⟩
    case accE =>
      intro x hx
      by_cases hxn : x = t.name
      · simp [findE_setE, hxn]
      · simpa [findE_setE, hxn] using h.accE x (by simpa [hxn] using hx)
    case diskReg =>
      intro n' hH
      show dget s.disk n' = dget s.reg n'
      by_cases hcase : t.name = n' ∧ t.wr.isSome = true
      · -- a completing write: the disk holds its data, which is the register value
        obtain ⟨rfl, hw⟩ := hcase
        obtain ⟨⟨d, fs⟩, hwr⟩ := Option.isSome_iff_exists.mp hw
        rw [h.written f t d fs ht hwr (Or.inr ⟨v, hpc⟩), hregv, (h.st.wrOk f t d fs ht hwr).2.2 v hpc]
      · refine h.diskReg n' (fun f' t' h' hn hw => ?_)
        by_cases hff : f' = f
        · subst hff
          rw [ht] at h'
          cases h'
          exact absurd ⟨hn, hw⟩ hcase
        · exact hH f' t' (hold _ _ hff h') hn hw
    case tk =>
      exact forall_set (fun f' t' _ h' => h.taskOk h') (by constructor <;> simp)
    case cl =>
      intro i c hc
      refine ClOk.frame (fun _ hh => hh) (fun f' t' h' => ?_) (h.cl i c hc)
      by_cases hff : f' = f
      · subst hff
        rw [ht] at h'
        cases h'
        exact ⟨_, hself, by simp [evVal, hpc]⟩
      · exact ⟨t', hold _ _ hff h', rfl⟩

/-- `safe` looks only at who moves, which `Trans` records; `l` and `ev` stand for the rest of the
    step -/
theorem good_step {s s' : St} {w : Who} {l : Lbl} {ev : List Name} (h : Good s) (htr : Trans s s' w)
    (hsafe : safe s ⟨w, l, ev⟩ = true) : Good s' := by
  have hst := struct_step h.st htr
  cases htr with
  | @client i c op rest pc hc hops hpc hm =>
    have hcl := h.cl i c hc
    cases hm with
    | existsNF | gsizeNF | gsizeMem | updMem | updWaitOk =>
      exact good_clients h hst (ClOk.finish hcl ⟨by simp, by simp⟩)
    | updWaitErr hr =>
      obtain ⟨t, ht, hfin⟩ := taskRes_some hr
      exact absurd hfin (h.noErr _ t ht _).2
    | @getWait n f a exp r hr =>
      obtain ⟨t, ht, hfin⟩ := taskRes_some hr
      obtain ⟨t', ht', hv⟩ := hcl.waitG n rest f a exp hops hpc
      rw [ht] at ht'
      cases ht'
      cases r with
      | err e => exact absurd hfin (h.noErr _ t ht _).2
      | ok b =>
        refine good_clients h hst (ClOk.finish hcl ⟨by simp [resOfT], fun b' hb' => ?_⟩)
        simp only [resOfT] at hb'
        cases hb'
        simp only [evVal, hfin] at hv
        exact hv.symm
    | existsOk => exact good_clients h hst ⟨by rintro _ _ _ _ ⟨⟩, by rintro _ _ _ _ _ _ ⟨⟩, hcl.res⟩
    | @gsizeOk n b hd hb =>
      refine good_clients h hst ⟨fun n' rest' claim ho _ => ?_, by rintro _ _ _ _ _ _ ⟨⟩, hcl.res⟩
      cases hops.symm.trans ho
      exact ⟨b, hd, by omega⟩
    | updBusy =>
      exact good_clients h hst ⟨fun _ _ _ ho _ => (nomatch hops.symm.trans ho),
        fun _ _ _ _ _ ho _ => (nomatch hops.symm.trans ho), hcl.res⟩
    | @glockHit n claim e hf =>
      obtain ⟨te, hte, hoke⟩ := h.ent n e hf
      refine good_clients (good_acc h hst.nodupA fun x => ?_) hst
        ⟨by rintro _ _ _ _ ⟨⟩, fun n' rest' f a exp ho hp => ?_, hcl.res⟩
      · split
        · -- a decided future: `n` is in the access list already, touching it keeps the members
          rename_i hres
          obtain ⟨r, hr⟩ := Option.isSome_iff_exists.mp hres
          obtain ⟨t2, ht2, hfin⟩ := taskRes_some hr
          rw [hte] at ht2
          cases ht2
          have hn : n ∈ s.acc := (hoke.post (by simp [Task.pre, hfin])).2.2.1
          by_cases hx : x = n <;> simp [hx, hn]
        · rfl
      · cases hops.symm.trans ho
        cases hp
        exact ⟨te, hte, hoke.val⟩
    | @glockMiss n claim hf =>
      have hi : Idle s n := fun f t ht hp hn => by
        obtain ⟨e, he, _⟩ := h.own f t ht hp
        rw [hn, hf] at he
        cases he
      have hdr := h.diskReg_of_idle hi
      have hnacc : n ∉ s.acc := fun hm => by
        have := h.accE n hm
        rw [hf] at this
        cases this
      have h1 := good_submit (sz := claim) (wr := none) (pc0 := .read) (reg' := s.reg) h hi
        rfl (fun _ => hnacc)
        (by simpa [evVal] using hdr) (fun _ _ => rfl) nofun
        { noErr := by simp, kind := by simp, written := by simp, trunced := by simp
          fitT := ⟨fun _ => hcl.fitL n rest claim hops hpc, by simp⟩ }
      simp only [sizeAt, hf, delE_of_none hf, Int.sub_zero] at h1
      refine good_clients h1 hst ⟨by rintro _ _ _ _ ⟨⟩, fun n' rest' f a exp ho hp => ?_, hcl.res⟩
      cases hops.symm.trans ho
      cases hp
      exact ⟨_, List.getElem?_concat_length, by simpa [evVal] using hdr⟩
    | @updApply n d fs hd hnw =>
      simp only [safe, hc, hops, hpc, Bool.not_eq_true'] at hsafe
      have hi : Idle s n := fun f t ht hp hn => by
        -- `safe` leaves only a write in flight; it owns the entry, which would be `writing`
        subst hn
        obtain ⟨e, he, _, hok⟩ := h.owned ht hp
        have := (hok.pre hp).2.1.mpr (inflight_false hsafe ht rfl hp).2
        rw [hnw e he] at this
        cases this
      have h1 := good_submit (sz := d.length) (wr := some (d, fs)) (pc0 := .trunc)
        (reg' := dset s.reg n d) h hi rfl nofun (by simp [evVal, dget_dset_same])
        (fun k hk => dget_dset_other (fun hh => nomatch hk hh))
        (by
          rintro _ _ ⟨⟩
          exact ⟨by omega, nofun, nofun⟩)
        (by constructor <;> simp)
      exact good_clients h1 hst ⟨fun _ _ _ ho _ => (nomatch hops.symm.trans ho),
        fun _ _ _ _ _ ho _ => (nomatch hops.symm.trans ho), hcl.res⟩
    | @unload n =>
      simp only [safe, hc, hops, hpc, Bool.not_eq_true'] at hsafe
      have h1 := good_drop h (n := n) (fun f t ht hp hn =>
        absurd (inflight_false hsafe ht hn hp).1 (by simp))
      exact good_clients h1 hst (ClOk.finish hcl ⟨by simp, by simp⟩)
  | @task f t pc ht hpc hm =>
    cases hm with
    | @read b hd =>
      obtain ⟨b', hb', hl⟩ := (h.fitT f t ht).1 hpc
      rw [hd] at hb'
      cases hb'
      exact good_setT (dk := s.disk) h hst ht (by simp [Task.pre, hpc]) (by simp [evVal, hpc, hd])
        (fun _ => .inl rfl)
        { noErr := by simp, kind := by simp, trunced := by simp
          written := fun d fs hw _ => absurd hpc (h.st.wrOk f t d fs ht hw).2.1
          fitT := ⟨by simp, fun v hv => TPc.fin.inj hv ▸ hl⟩ }
    | readNF hd =>
      obtain ⟨b', hb', _⟩ := (h.fitT f t ht).1 hpc
      rw [hd] at hb'
      cases hb'
    | trunc =>
      have hw := h.kind f t ht (Or.inl hpc)
      exact good_setT h hst ht (by simp [Task.pre, hpc]) (by simp [evVal, hpc])
        (DiskStep_dset [] (by simp [Task.pre, hpc]) hw (by simp))
        { noErr := by simp, kind := fun _ => hw, written := by simp
          trunced := fun _ => dget_dset_same, fitT := ⟨by simp, by simp⟩ }
    | @write d fs hw =>
      have hsz := (h.st.wrOk f t d fs ht hw).1
      -- the file is empty since this task's truncate, so the write leaves exactly `d`
      have hov : overwrite ((dget s.disk t.name).getD []) d = d := by
        simp [h.trunced f t ht hpc, overwrite]
      rw [hov] at hst ⊢
      refine good_setT h hst ht (by cases fs <;> simp [Task.pre, hpc]) (by cases fs <;> simp [evVal, hpc, hw])
        (DiskStep_dset d (by simp [Task.pre, hpc]) (by simp [hw]) hsz)
        { noErr := by cases fs <;> simp, kind := fun _ => by simp [hw]
          written := fun d' fs' hw' _ => ?_, trunced := by cases fs <;> simp
          fitT := ⟨by cases fs <;> simp, fun v hv => ?_⟩ }
      · rw [hw] at hw'
        cases hw'
        exact dget_dset_same
      · cases fs
        · simp at hv
          subst hv
          exact hsz
        · simp at hv
    | @fsync d fs hw =>
      exact good_setT (dk := s.disk) h hst ht (by simp [Task.pre, hpc]) (by simp [evVal, hpc, hw])
        (fun _ => .inl rfl)
        { noErr := by simp, kind := by simp, trunced := by simp
          written := fun d' fs' hw' _ => h.written f t d' fs' ht hw' (Or.inl hpc)
          fitT := ⟨by simp, fun v hv => TPc.fin.inj hv ▸ (h.st.wrOk f t d fs ht hw).1⟩ }
    | @finBig v hbig =>
      have := (h.fitT f t ht).2 v hpc
      omega
    | @complete r =>
      refine good_setT (dk := s.disk) h hst ht (by simp [Task.pre, hpc]) (by cases r <;> simp [evVal, hpc])
        (fun _ => .inl rfl)
        { noErr := fun e => ⟨by simp, fun hh => ?_⟩, kind := by simp, written := by simp
          trunced := by simp, fitT := ⟨by simp, by simp⟩ }
      cases hh
      exact (h.noErr f t ht e).1 hpc
    | fin _ hleg hm =>
      exact good_fin (good_legalEv h hleg) hst ((evict_tasks s _).symm ▸ ht) hpc
        ((evict_max s _).symm ▸ fin_fits h ht hpc hleg) hm

/-! ## the property theorems -/

theorem good_runSafe {s s' : St} (h : Good s) {sched : List Step}
    (hr : runSafe s sched = some s') : Good s' := by
  induction sched generalizing s with
  | nil =>
    cases hr
    exact h
  | cons st rest ih =>
    rw [runSafe] at hr
    split at hr
    · rename_i hsafe
      split at hr
      · rename_i s1 h1
        exact ih (good_step h (step_trans h1) hsafe) hr
      · cases hr
    · cases hr

/-- **writers_serialised**: along every schedule in which no update/unload of a file takes the
    lock while a load of that file is in flight (and no unload while a write is), at most one
    task per file is in flight at any time — in particular at most one write task between an
    update that saw `writing = False` and its completion — and while a write task is in flight
    the entry of its file is marked `writing` and points to it (so every other update of the
    file takes the `not applied` branch and waits for it). -/
theorem writers_serialised (max : Nat) (disk : Disk) (progs : List (List Op)) (sched : List Step) (s' : St)
    (h : runSafe (init max disk progs) sched = some s') :
    (∀ (f1 f2 : Nat) (t1 t2 : Task), s'.tasks[f1]? = some t1 → s'.tasks[f2]? = some t2 →
        t1.pre = true → t2.pre = true → t1.name = t2.name → f1 = f2) ∧
    (∀ (f : Nat) (t : Task), s'.tasks[f]? = some t → t.pre = true → t.wr.isSome = true →
        ∃ e, findE s'.entries t.name = some e ∧ e.fut = f ∧ e.writing = true) := by
  have hg := good_runSafe (good_init max disk progs) h
  refine ⟨fun _ _ _ _ h1 h2 => hg.uniq h1 h2, fun f t ht hp hw => ?_⟩
  obtain ⟨e, he, hf, hok⟩ := hg.owned ht hp
  exact ⟨e, he, hf, (hok.pre hp).2.1.mpr hw⟩

def total (es : List Entry) : Int := (es.map fun e => (e.size : Int)).sum

/-- what the property demands of every state (`results`) and of quiescent states -/
structure Agreement (s : St) : Prop where
  /-- no call raised, and every get that returned data returned the register value (= data of
      the last update that took the `applied` branch, or the initial contents) at the instant
      it held the lock -/
  results : ∀ (i : Nat) (c : Client) (r : Done), s.clients[i]? = some c → r ∈ c.results →
      (∀ e, r.res ≠ .raised e) ∧ (∀ b, r.res = .data b → r.exp = some b)
  /-- when all calls and tasks have finished: memory accounting = sum of the cached entries -/
  acct : quiescent s = true → s.mem = total s.entries
  /-- … every cached entry is complete, not `writing`, and equals the file on disk -/
  cache : quiescent s = true → ∀ n e, findE s.entries n = some e →
      e.writing = false ∧ ∃ v, taskRes s e.fut = some (.ok v) ∧ dget s.disk n = some v ∧ e.size = v.length
  /-- … and every file on disk holds the last successful update (the register) -/
  disk : quiescent s = true → ∀ n, dget s.disk n = dget s.reg n

theorem counted_eq_total {es : List Entry} (h : ∀ e, e ∈ es → e.counted = true) : counted es = total es := by
  unfold counted total
  rw [List.map_congr_left (g := fun e => (e.size : Int)) fun e he => by simp [h e he]]

theorem idle_of_quiescent {s : St} (h : quiescent s = true) (n : Name) : Idle s n := by
  intro f t ht hp
  obtain ⟨r, hr⟩ := quiescent_fin h ht
  simp [Task.pre, hr] at hp

theorem Good.agreement {s : St} (hg : Good s) : Agreement s := by
  refine ⟨fun i c r hc hr => (hg.cl i c hc).res r hr, fun hq => ?_, fun hq n e he => ?_,
    fun hq n => hg.diskReg_of_idle (idle_of_quiescent hq n)⟩
  · rw [hg.acct]
    exact counted_eq_total (fun e he =>
      hg.counted_of_idle (idle_of_quiescent hq _) (findE_of_mem hg.st.nodupE he))
  · obtain ⟨t, ht, hok⟩ := hg.ent n e he
    obtain ⟨r, hr⟩ := quiescent_fin hq ht
    obtain ⟨_, hw, _, v, hv, hsz⟩ := hok.post (by simp [Task.pre, hr])
    refine ⟨hw, v, ?_, ?_, hsz⟩
    · cases r with
      | ok b =>
        simp [evVal, hr] at hv
        subst hv
        simp [taskRes, ht, hr]
      | err x => exact absurd hr (hg.noErr _ t ht x).2
    · rw [hg.diskReg_of_idle (idle_of_quiescent hq n), ← hok.val]
      exact hv

/-- **lin_partial**: for every number of clients, every program, every eviction choice and every
    schedule in which no update or unload of a file takes the lock while a load of that file is
    in flight and no unload takes the lock while a write of that file is in flight (`runSafe`):
    no call ever raises, every get that returns data returns the register value at its lock
    instant (linearization points: lock blocks), and whenever all calls and tasks have finished
    the file on disk, the cached contents and the last successful update agree and the memory
    accounting equals the sum of the cached entries. -/
theorem lin_partial (max : Nat) (disk : Disk) (progs : List (List Op)) (sched : List Step) (s' : St)
    (h : runSafe (init max disk progs) sched = some s') : Agreement s' :=
  (good_runSafe (good_init max disk progs) h).agreement

/-- the property at full strength: the same for **every** schedule -/
def lin_full : Prop :=
  ∀ (max : Nat) (disk : Disk) (progs : List (List Op)) (sched : List Step) (s' : St),
    run (init max disk progs) sched = some s' → Agreement s'

/-! ### the excluded windows are real: counterexample schedules -/

def holds (o : Option St) (p : St → Bool) : Bool :=
  match o with
  | some s => p s
  | none => false

theorem holds_elim {o : Option St} {p : St → Bool} (h : holds o p = true) : ∃ s, o = some s ∧ p s = true := by
  cases o with
  | none => cases h
  | some s => exact ⟨s, rfl, h⟩

-- ASCII "OLD", "NEWNEW", "XY"
def OLD : Bytes := [79, 76, 68]
def NEW6 : Bytes := [78, 69, 87, 78, 69, 87]
def XY : Bytes := [88, 89]

/-- number of write tasks of file `n` whose completion block has not run -/
def writersInFlight (s : St) (n : Name) : Nat :=
  (s.tasks.filter fun t => t.name == n && t.pre && t.wr.isSome).length

-- a step of client `i` / of task `f` at label `l`, no eviction
def cs (i : Nat) (l : Lbl) : Step := ⟨.client i, l, []⟩
def ks (f : Nat) (l : Lbl) : Step := ⟨.task f, l, []⟩

/-- (i) an update arriving while a load of the same file is in flight: `_unload_file` subtracts
    a claim that was never added, and the load's completion block clears the `writing` flag of
    the in-flight write … -/
def schedI_prefix : List Step :=
  [cs 0 .exists_, cs 0 .getsize, cs 0 .lock,      -- get f: miss, load K0 submitted
   cs 1 .lock,                                  -- update f NEWNEW during the load: write K1 submitted
   ks 0 .read, ks 0 .lock,                       -- load completes: entry f := (False, 3, K1)
   cs 2 .lock]                                  -- second update sees writing = False: write K2 submitted
def schedI_rest : List Step :=
  [ks 1 .trunc, ks 1 .write, ks 2 .trunc, ks 2 .write, ks 1 .lock, ks 1 .complete, ks 2 .lock, ks 2 .complete,
   ks 0 .complete, cs 0 .wait, cs 1 .wait, cs 2 .wait]
def progsI : List (List Op) := [[.get "f"], [.update "f" NEW6 false], [.update "f" XY false]]

/-- … so two write tasks of one file are in flight at once, and at quiescence the byte total is
    5 for a single cached entry of 2 bytes -/
theorem cex_update_during_load :
    holds (run (init 64 [("f", OLD)] progsI) schedI_prefix) (fun s => writersInFlight s "f" == 2) = true ∧
    holds (run (init 64 [("f", OLD)] progsI) (schedI_prefix ++ schedI_rest))
      (fun s => quiescent s && s.mem == 5 && total s.entries == 2) = true := by
  decide

/-- (ii) the loader reads between the writer's truncate and its write: the get returns empty
    bytes — neither the initial contents nor the update -/
def schedII : List Step :=
  [cs 0 .exists_, cs 0 .getsize, cs 0 .lock, cs 1 .lock, ks 1 .trunc, ks 0 .read, ks 0 .lock, ks 0 .complete,
   cs 0 .wait, ks 1 .write, ks 1 .lock, ks 1 .complete, cs 1 .wait]

theorem cex_read_between_trunc_and_write :
    holds (run (init 64 [("f", OLD)] [[.get "f"], [.update "f" NEW6 false]]) schedII)
      (fun s => quiescent s &&
        (s.clients.map (·.results)) == [[⟨.data [], some OLD⟩], [⟨.applied true, none⟩]]) = true := by
  decide

/-- (iii) unload during a load: the worker's `assert info is not None` fails, the get raises,
    and the byte total is −3 with an empty cache -/
def schedIII : List Step :=
  [cs 0 .exists_, cs 0 .getsize, cs 0 .lock, cs 1 .lock, ks 0 .read, ks 0 .lock, ks 0 .complete, cs 0 .wait]

theorem cex_unload_during_load :
    holds (run (init 64 [("f", OLD)] [[.get "f"], [.unload "f"]]) schedIII)
      (fun s => quiescent s && s.mem == -3 && s.entries.isEmpty &&
        (s.clients.map (·.results)) == [[⟨.raised .assertion, some OLD⟩], [⟨.done, none⟩]]) = true := by
  decide

/-- (iv) unload during a write: same assertion in the write worker, the update raises, byte
    total −6 -/
def schedIV : List Step :=
  [cs 0 .lock, cs 1 .lock, ks 0 .trunc, ks 0 .write, ks 0 .lock, ks 0 .complete, cs 0 .wait]

theorem cex_unload_during_write :
    holds (run (init 64 [("f", OLD)] [[.update "f" NEW6 false], [.unload "f"]]) schedIV)
      (fun s => quiescent s && s.mem == -6 && s.entries.isEmpty &&
        (s.clients.map (·.results)) == [[⟨.raised .assertion, none⟩], [⟨.done, none⟩]]) = true := by
  decide

/-- the full-strength statement is false of the code as it stands -/
theorem not_lin_full : ¬ lin_full := by
  intro hfull
  obtain ⟨s, hs, hp⟩ := holds_elim cex_unload_during_load
  have ha := hfull _ _ _ _ s hs
  simp only [Bool.and_eq_true, beq_iff_eq] at hp
  obtain ⟨⟨⟨hq, hmem⟩, hemp⟩, _⟩ := hp
  have h1 := ha.acct hq
  have : s.entries = [] := by simpa using hemp
  rw [this, hmem] at h1
  simp [total] at h1

/-! ### non-vacuity: concurrent schedules that are `runSafe` -/

/-- client 0 caches `f`; then update ∥ get of the cached file (clients 1, 2), interleaved at every
    step, while client 3 gets and unloads another file: the schedule is `runSafe`, ends quiescent,
    and the second get returns the update's data (it took the lock after the update) -/
example :
    holds (runSafe (init 64 [("f", OLD), ("g", XY)]
             [[.get "f"], [.update "f" NEW6 true], [.get "f"], [.get "g", .unload "g"]])
      [cs 0 .exists_, cs 0 .getsize, cs 0 .lock, ks 0 .read, ks 0 .lock, ks 0 .complete, cs 0 .wait,
       cs 2 .exists_, cs 1 .lock, cs 3 .exists_, ks 1 .trunc, cs 2 .getsize, cs 3 .getsize, cs 2 .lock, cs 3 .lock,
       ks 1 .write, ks 2 .read, ks 1 .fsync, ks 2 .lock, ks 1 .lock, ks 2 .complete, cs 3 .wait, ks 1 .complete,
       cs 3 .lock, cs 2 .wait, cs 1 .wait])
      (fun s => quiescent s && s.mem == 6 &&
        (s.clients.map (·.results)) ==
          [[⟨.data OLD, some OLD⟩], [⟨.applied true, none⟩], [⟨.data NEW6, some NEW6⟩],
           [⟨.data XY, some XY⟩, ⟨.done, none⟩]]) = true := by
  decide

/-- eviction under concurrency with a legal choice: limit 6, `f` (3 bytes) cached, an update of
    `g` to 6 bytes must evict `f` in its completion block -/
example :
    holds (runSafe (init 6 [("f", OLD), ("g", XY)] [[.get "f"], [.update "g" NEW6 false], [.get "f"]])
      [cs 0 .exists_, cs 0 .getsize, cs 0 .lock, ks 0 .read, ks 0 .lock, ks 0 .complete, cs 0 .wait,
       cs 1 .lock, cs 2 .exists_, ks 1 .trunc, cs 2 .getsize, ks 1 .write, cs 2 .lock, ⟨.task 1, .lock, ["f"]⟩,
       cs 2 .wait, ks 1 .complete, cs 1 .wait])
      (fun s => quiescent s && s.mem == 6 && total s.entries == 6 && s.acc == ["g"]) = true := by
  decide

end Klong.C18
