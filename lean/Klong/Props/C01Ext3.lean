/-
  C01 extension 3 — property theorems: implementation model (Klong.Model.C01Ext3, mirroring the
  Python of dyads.py / monads.py of /repo with 175176c, 22bcc8e, 2fe5617, 12321e2, 187c70d) =
  reference (Ext3.refDyad / Ext3.refMonad, the manual text transcribed) wherever the reference is
  defined, for every list length, nesting depth and index.

  Hypotheses that appear in the statements (all decidable):
  * `Ext1.notStored x = false` — the literal `x` is what the interpreter holds (Reciprocal and
    Char ask only for the half of it that their models test, `Ext1.hasObjRank2 x = false`);
  * `Ext1.mixedNum w = false` — the reference result is not a regular nest of numbers mixing
    integers and reals (numpy re-packs it as one float64 array: finding mixed-numeric-level);
  * `repackOk w = true` / `pathOkV w ixs = true` / `clashFree w = true` — `kg_asarray` of a
    rebuilt member list does not broadcast member arrays whose shapes agree on leading dimensions
    only (`Ext1.objArrayClash`; witness `depth_repack_witness`);
  * `amendValueOk a v = true` / `hasReal a = false` — no integer is stored into a float64 array (it
    would come back real; witness `amend_kind_witness`); `amendValueOk` and `isOpaqueV v = false`
    also say that `v` is no dictionary and not :undefined;
  * `ufuncSkip a b = false` — the paired traversal of an atomic dyad meets no numpy broadcast
    (findings atomic:rank-mismatch / numpy-shape-mismatch / object-array-rank2).
  Form is proved on atoms (`form_atom_correct`); its element-wise extension through lists
  (`formRec`, mirroring vec_fn2 / _e_dyad_form) is modelled and tied by the differential run only.
-/
import Klong.Model.C01Ext3
import Klong.Props.C01
import Klong.Props.C01Ext1
namespace Klong.C01.Ext3
open Klong Klong.C01

/-! ## the reference's dispatch -/

theorem refDyad_divide : refDyad "%" = refDivide := rfl
theorem refDyad_power : refDyad "^" = refPower := rfl
theorem refDyad_form : refDyad ":$" = refForm := rfl
theorem refMonad_char : refMonad ":#" = refChar := rfl
theorem refMonad_format : refMonad "$" = refFormat := rfl

/-! ## Python index assignment on in-range natural indices -/

theorem pySet_nat {α} (xs : List α) (i : Nat) (v : α) (h : i < xs.length) :
    pySet xs (i : Int) v = some (xs.set i v) := by
  unfold pySet
  have h1 : ¬ ((i : Int) < 0) := by omega
  simp [h1, h]

theorem setAll_length {α} (v : α) : ∀ (is : List Nat) (xs : List α), (setAll xs v is).length = xs.length := by
  intro is xs
  induction is generalizing xs with
  | nil => rfl
  | cons i is ih => simp [setAll, ih]

theorem pySetAll_nat {α} (v : α) {is : List Nat} {xs : List α}
    (h : is.all (fun i => decide (i < xs.length)) = true) :
    pySetAll xs v (is.map fun (p : Nat) => (p : Int)) = some (setAll xs v is) := by
  induction is generalizing xs with
  | nil => rfl
  | cons i is ih =>
    simp only [List.all_cons, Bool.and_eq_true, decide_eq_true_eq] at h
    rw [List.map_cons]
    unfold pySetAll
    simp only [pySet_nat xs i v h.1, setAll]
    exact ih (by simpa using h.2)

theorem natList_length {vs : List Val} {is : List Nat} (h : natList vs = some is) :
    is.length = vs.length := by
  -- the arms of `natList`, in its order: `[]` (1); `.int n :: r` with `n < 0` (2: `none`), with
  -- `0 ≤ n` (3); a head that is no integer (4: `none`)
  fun_induction natList vs generalizing is with
  | case1 =>
    cases h
    rfl
  | case3 n r hn ih =>
    obtain ⟨qs, hr, rfl⟩ := Option.map_eq_some_iff.mp h
    simp [ih hr]
  | case2 | case4 =>
    simp at h

theorem nonempty_of_all_lt {α} {xs : List α} {is : List Nat} (hne : is.length ≠ 0)
    (hall : is.all (fun i => decide (i < xs.length)) = true) : xs.isEmpty = false := by
  cases xs with
  | nil => cases is <;> simp_all
  | cons _ _ => rfl

/-! ## Amend: where the reference is defined -/

theorem splice_single (cs : List Nat) (c i : Nat) (h : i < cs.length) :
    splice cs [c] i = cs.set i c := by
  simp [splice, List.set_eq_take_append_cons_drop, h]

theorem setAll_eq_spliceAll (c : Nat) {is cs : List Nat}
    (h : is.all (fun i => decide (i < cs.length)) = true) :
    setAll cs c is = spliceAll cs [c] is := by
  induction is generalizing cs with
  | nil => rfl
  | cons i is ih =>
    simp only [List.all_cons, Bool.and_eq_true, decide_eq_true_eq] at h
    simp only [setAll, spliceAll, splice_single cs c i h.1]
    exact ih (by simpa using h.2)

/-- a character amended into a string is the string case with `q = [c]`: at positions inside the
    string, splicing one character in replaces the one there -/
theorem refAmend_some {a b w : Val} (h : refAmend a b = some w) :
    ∃ v ixs is, b = .list (v :: ixs) ∧ natList ixs = some is ∧
      ((∃ xs, a = .list xs ∧ is.all (fun i => decide (i < xs.length)) = true ∧
          w = .list (setAll xs v is)) ∨
       (∃ cs q, a = .str cs ∧ amendText v = some q ∧ (∀ i ∈ is, i ≤ cs.length) ∧
          w = .str (spliceAll cs q is))) := by
  revert h
  -- the clauses of `refAmend`, in its order, three cases each (the indices are natural numbers that
  -- pass its test; that fail it; no natural numbers): a list, every index inside it (1–3); a string
  -- and a character, every position inside it (4–6); two strings, disjoint substrings at positions
  -- ≤ `#a` (7–9); other operands (10).  All but 1, 4, 7 are `none`.
  fun_cases refAmend a b
  case case1 xs v ixs is hp hall =>
    rintro ⟨⟩
    exact ⟨v, ixs, is, rfl, hp, .inl ⟨xs, rfl, hall, rfl⟩⟩
  case case4 cs c ixs is hp hall =>
    rintro ⟨⟩
    refine ⟨_, ixs, is, rfl, hp, .inr ⟨cs, [c], rfl, rfl, fun i hi => ?_, ?_⟩⟩
    · exact Nat.le_of_lt (by simpa using List.all_eq_true.mp hall i hi)
    · rw [setAll_eq_spliceAll c hall]
  case case7 cs s ixs is hp hall =>
    rintro ⟨⟩
    simp only [Bool.and_eq_true] at hall
    exact ⟨_, ixs, is, rfl, hp,
      .inr ⟨cs, s, rfl, rfl, fun i hi => by simpa using List.all_eq_true.mp hall.1 i hi, rfl⟩⟩
  all_goals nofun

/-! ## Amend on lists -/

def isIntV : Val → Bool
  | .int _ => true
  | _ => false

/-- the value is of a modelled kind and, where `numpy.put` takes it, it is not an integer going
    into a float64 array (which stores it as a real) -/
def amendValueOk (a v : Val) : Bool :=
  !isOpaqueV v && !(putFits a v && (numShape a).isSome && realKind a && isIntV v)

/-- `kg_asarray` of the rebuilt member list keeps the members: it is a regular numeric nest or no
    two member arrays agree on leading dimensions only -/
def repackOk : Val → Bool
  | .list r => (numShape (.list r)).isSome || !Ext1.objArrayClash r
  | _ => true

theorem repack_of_repackOk {r : List Val} (hm : Ext1.mixedNum (.list r) = false)
    (hr : repackOk (.list r) = true) : repack r = .ok (.list r) := by
  simp only [repackOk, Bool.or_eq_true, Bool.not_eq_true'] at hr
  rw [repack, Ext1.npCoerce_id hm, if_neg]
  rcases hr with hr | hr <;> simp [hr, ← Option.not_isSome]

theorem putFits_notList {a v : Val} (h : putFits a v = true) : isListV v = false := by
  cases v with
  | list _ => simp [putFits] at h
  | _ => rfl

theorem toReal_nonInt {v : Val} (hl : isListV v = false) (hi : isIntV v = false) :
    Ext1.toReal v = v := by
  cases v <;> simp_all [Ext1.toReal, isListV, isIntV]

/-- **amend_list_correct**: for a list `a` and `b = [v i1 … iN]` with every index inside `a`,
    the model of `eval_dyad_amend` (numpy.put fast path or the member-list path) returns the
    reference's list: the members at i1 … iN replaced by `v`, whatever the rank of `a`, for every
    `v` that `amendValueOk` admits -/
theorem amend_list_correct (xs : List Val) (b w : Val)
    (h : refDyad ":=" (.list xs) b = some w)
    (ha : Ext1.notStored (.list xs) = false) (hb : Ext1.notStored b = false)
    (hc : ∀ v ixs, b = .list (v :: ixs) → amendValueOk (.list xs) v = true)
    (hm : Ext1.mixedNum w = false) (hr : repackOk w = true) :
    implDyad ":=" (.list xs) b = .ok w := by
  -- `a` is a list: `⟨⟩` closes the string alternative of `refAmend_some` (`.list ≠ .str`)
  obtain ⟨v, ixs, is, rfl, hp, ⟨_, ⟨⟩, hall, rfl⟩ | ⟨_, _, ⟨⟩, _⟩⟩ := refAmend_some h
  have hcl := hc v ixs rfl
  show implAmend (.list xs) (.list (v :: ixs)) = _
  unfold implAmend
  simp only [ha, hb, Bool.or_self, Bool.false_eq_true, if_false]
  cases ixs with
  | nil =>
    -- len(b) <= 1: `a` itself, and the reference replaces nothing
    cases hp
    rfl
  | cons j r =>
    have hset := pySetAll_nat v hall
    have hne : xs.isEmpty = false :=
      nonempty_of_all_lt (by simp [natList_length hp]) hall
    simp only [amendValueOk, Bool.and_eq_true, Bool.not_eq_true'] at hcl
    simp only [Ext1.intList_of_natList hp, implAmendList, hcl.1, Bool.false_eq_true, if_false]
    cases hf : putFits (.list xs) v with
    | true =>
      -- numpy.put stores the value as it is: where the array is float64 the value is no integer
      have hv : (if ((numShape (Val.list xs)).isSome && realKind (Val.list xs)) = true
          then Ext1.toReal v else v) = v :=
        ite_eq_right_iff.mpr fun hk =>
          toReal_nonInt (putFits_notList hf) (by simpa [hf, hk] using hcl.2)
      simp only [if_true, hne, Bool.false_eq_true, if_false, hv, hset, Option.map_some, lift]
    | false =>
      simp only [Bool.false_eq_true, if_false, hset]
      exact repack_of_repackOk hm hr

/-! ## Amend on strings -/

theorem splice_length_ge (r q : List Nat) (i : Nat) (h : i ≤ r.length) :
    r.length ≤ (splice r q i).length := by
  simp [splice]
  omega

/-- the loop `r = r[:i] + q + r[i+len(q):]` on natural indices that never exceed the current
    length -/
theorem amendStrLoop_nat (q : List Nat) {is r : List Nat} (h : ∀ i ∈ is, i ≤ r.length) :
    amendStrLoop q r (is.map fun (p : Nat) => (p : Int)) = some (spliceAll r q is) := by
  induction is generalizing r with
  | nil => rfl
  | cons i is ih =>
    have hi : i ≤ r.length := h i (by simp)
    have h1 : ¬ ((i : Int) < 0) := by omega
    have h2 : ¬ ((i : Int) > (r.length : Int)) := by omega
    simp only [List.map_cons, amendStrLoop, h1, if_false, false_or, h2, Int.toNat_natCast,
      spliceAll]
    exact ih fun j hj => Nat.le_trans (h j (by simp [hj])) (splice_length_ge r q i hi)

/-- on natural indices the string path of `eval_dyad_amend` is the slicing loop (no index: the
    loop does nothing, as `len(b) <= 1` returns `a`) -/
theorem implAmend_str_nat {cs : List Nat} {v : Val} {ixs : List Val} {is q : List Nat}
    (hp : natList ixs = some is) (hq : amendText v = some q) :
    implAmend (.str cs) (.list (v :: ixs)) =
      lift ((amendStrLoop q cs (is.map fun (p : Nat) => (p : Int))).map .str) := by
  cases ixs with
  | nil =>
    cases hp
    rfl
  | cons j r =>
    unfold implAmend
    simp [Ext1.intList_of_natList hp, hq]

/-- **amend_str_correct**: a string amended with a character (positions inside the string) or with
    a string (pairwise disjoint substrings starting at positions ≤ #a, growing past the end):
    the Python slicing loop returns the reference's string — no operand class excluded -/
theorem amend_str_correct (cs : List Nat) (b w : Val)
    (h : refDyad ":=" (.str cs) b = some w) : implDyad ":=" (.str cs) b = .ok w := by
  -- `a` is a string: here the list alternative is the one closed by `⟨⟩`
  obtain ⟨v, ixs, is, rfl, hp, ⟨_, ⟨⟩, _⟩ | ⟨_, q, ⟨⟩, hq, hle, rfl⟩⟩ := refAmend_some h
  simp only [implDyad, implAmend_str_nat hp hq, amendStrLoop_nat q hle]
  rfl

/-! ## regular arrays -/

theorem regShapes_eq_map (xs : List Val) : regShape.regShapes xs = xs.map regShape := by
  induction xs with
  | nil => rfl
  | cons y ys ih => simp [regShape.regShapes, ih]

theorem regShape_elems {xs : List Val} {s : List Nat} (h : regShape (.list xs) = some s) :
    ∃ t, s = xs.length :: t ∧ ∀ x ∈ xs, regShape x = some t := by
  cases xs with
  | nil => simp [regShape] at h
  | cons y ys =>
    simp only [regShape, regShapes_eq_map] at h
    split at h
    · simp at h
    · rename_i t hy
      obtain ⟨hall, h⟩ := Option.ite_none_right_eq_some.mp h
      exact ⟨t, by simpa using h.symm, by simpa [hy] using hall⟩

theorem regShape_nil_notList (x : Val) (h : regShape x = some []) : isListV x = false := by
  cases x with
  | list xs =>
    obtain ⟨t, ht, _⟩ := regShape_elems h
    simp at ht
  | _ => rfl

theorem regShape_atom (a : Val) (s : List Nat) (hl : isListV a = false) (h : regShape a = some s) : s = [] := by
  cases a <;> simp_all [regShape, isListV]

theorem shape_agree : ∀ (a : Val) (s s' : List Nat),
    numShape a = some s → regShape a = some s' → s = s'
  | .list [], _, _, _, h2 => nomatch h2
  | .list (x :: xs), s, s', h1, h2 => by
    obtain ⟨t, rfl, hel⟩ := Ext1.numShape_elems h1
    obtain ⟨t', rfl, hel'⟩ := regShape_elems h2
    rw [shape_agree x t t' (hel x (by simp)) (hel' x (by simp))]
  | .int _, _, _, h1, h2 | .real _, _, _, h1, h2 => by
    cases h1
    cases h2
    rfl
  | .chr _, _, _, h1, _ | .sym _, _, _, h1, _ | .str _, _, _, h1, _ | .dict _, _, _, h1, _
  | .undef, _, _, h1, _ =>
    nomatch h1

/-! ## Amend-in-Depth -/

theorem multiSet_nat (v : Val) : ∀ (is : List Nat) (a w : Val), deepSet a is v = some w →
    multiSet a (is.map fun (p : Nat) => (p : Int)) v = some w := by
  intro is a w h
  -- the arms of `deepSet`, in its order: no index (1); a list and one index, inside it (2) or not
  -- (3); a list and further indices, its member `i` being `x` (4) or missing (5); no list (6).
  -- All but 2 and 4 are `none`.
  fun_induction deepSet a is v generalizing w with
  | case2 xs i v hi =>
    cases h
    unfold multiSet
    simp [pySet_nat xs i v hi]
  | case4 xs i j r v x hx ih =>
    obtain ⟨y, hy, rfl⟩ := Option.map_eq_some_iff.mp h
    have hi : i < xs.length := (List.getElem?_eq_some_iff.mp hx).1
    have := ih y hy
    simp only [List.map_cons] at this
    unfold multiSet
    simp [Ext1.pyIndex_nat, hx, this, pySet_nat xs i y hi]
  | _ =>
    simp at h

theorem refAmendDepth_some {xs ixs : List Val} {v w : Val}
    (h : refAmendDepth (.list xs) (.list (v :: ixs)) = some w) :
    ∃ s i is, regShape (.list xs) = some s ∧ natList ixs = some (i :: is) ∧
      s.length = is.length + 1 ∧ deepSet (.list xs) (i :: is) v = some w := by
  simp only [refAmendDepth] at h
  split at h
  · rename_i s is hs hp
    obtain ⟨hlen, h⟩ := Option.ite_none_right_eq_some.mp h
    cases is with
    | nil => simp [deepSet] at h
    | cons i is => exact ⟨s, i, is, hs, hp, by simpa using (beq_iff_eq.mp hlen).symm, h⟩
  · simp at h

/-- on natural indices (at least one) the entry code of `eval_dyad_amend_in_depth` is `_e` -/
theorem implAmendDepth_nat {xs ixs : List Val} {v : Val} {i : Nat} {is : List Nat}
    (ha : Ext1.notStored (.list xs) = false) (hb : Ext1.notStored (.list (v :: ixs)) = false)
    (hp : natList ixs = some (i :: is)) (ho : isOpaqueV v = false) :
    implAmendDepth (.list xs) (.list (v :: ixs)) =
      aidRec (.list xs) ((i :: is).map fun (p : Nat) => (p : Int)) v := by
  cases ixs with
  | nil => simp [natList] at hp
  | cons j r =>
    unfold implAmendDepth
    simp [ha, hb, Ext1.intList_of_natList hp, ho]

/-- **amend_in_depth_correct**: an integer stored into a regular N-dimensional array of integers
    (any N) at N in-range indices: the direct path `p[tuple(q)] = v` replaces exactly the addressed
    element -/
theorem amend_in_depth_correct (xs : List Val) (n : Int) (ixs : List Val) (w : Val)
    (h : refDyad ":-" (.list xs) (.list (.int n :: ixs)) = some w)
    (ha : Ext1.notStored (.list xs) = false) (hb : Ext1.notStored (.list (.int n :: ixs)) = false)
    (hn : (numShape (.list xs)).isSome = true) (hr : Ext1.hasReal (.list xs) = false) :
    implDyad ":-" (.list xs) (.list (.int n :: ixs)) = .ok w := by
  obtain ⟨s, i, is, hs, hpn, hlen, hset⟩ := refAmendDepth_some h
  simp only [implDyad, implAmendDepth_nat ha hb hpn rfl]
  obtain ⟨s', hns⟩ := Option.isSome_iff_exists.mp hn
  cases shape_agree _ _ _ hns hs
  have hrk : realKind (.list xs) = false := by
    cases xs with
    | nil => simp [regShape] at hs
    | cons _ _ => exact hr
  have hdir : aidDirect (.list xs) (is.length + 1) (.int n) = true := by
    simp [aidDirect, hns, hrk, hlen]
  have hms := multiSet_nat (.int n) (i :: is) (.list xs) w hset
  simp only [List.map_cons] at hms ⊢
  unfold aidRec
  simp [hdir, hrk, hms, lift]

def levelOk (r : List Val) : Bool := repackOk (.list r) && !Ext1.mixedNum (.list r)

/-- every list rebuilt along the index path is kept by `kg_asarray` -/
def pathOk : Val → List Nat → Bool
  | .list r, [_] => levelOk r
  | .list r, i :: j :: rest =>
    levelOk r && (match r[i]? with
      | some y => pathOk y (j :: rest)
      | none => false)
  | _, _ => false

theorem repack_of_levelOk {r : List Val} (h : levelOk r = true) : repack r = .ok (.list r) := by
  simp only [levelOk, Bool.and_eq_true, Bool.not_eq_true'] at h
  exact repack_of_repackOk h.2 h.1

/-- the member-list path (one member replaced per level, `kg_asarray` per level) -/
theorem aidRec_slow (v : Val) (hd : ∀ p n, aidDirect p n v = false) : ∀ (is : List Nat) (a w : Val),
    deepSet a is v = some w → pathOk w is = true →
    aidRec a (is.map fun (p : Nat) => (p : Int)) v = .ok w := by
  intro is a w hset hp
  -- the arms of `deepSet`, numbered as in `multiSet_nat`
  fun_induction deepSet a is v generalizing w with
  | case2 xs i v hi =>
    cases hset
    unfold aidRec
    simp [hd, pySet_nat xs i v hi, repack_of_levelOk hp]
  | case4 xs i j r v x hx ih =>
    obtain ⟨y, hy, rfl⟩ := Option.map_eq_some_iff.mp hset
    have hi : i < xs.length := (List.getElem?_eq_some_iff.mp hx).1
    simp only [pathOk, List.getElem?_set_self hi, Bool.and_eq_true] at hp
    have := ih hd y hy hp.2
    simp only [List.map_cons] at this
    unfold aidRec
    simp [hd, Ext1.pyIndex_nat, hx, this, pySet_nat xs i y hi, repack_of_levelOk hp.1]
  | _ =>
    simp at hset

theorem aidDirect_text {v : Val} (hv : (isListV v || isText v) = true) :
    ∀ p n, aidDirect p n v = false := by
  intro p n
  cases v with
  | int _ | real _ | dict _ | undef => cases hv
  | list _ => rfl
  | chr _ | sym _ | str _ =>
    -- no number, no integer: whatever the array, the dtype test fails
    simp only [aidDirect, Val.isNum, ite_self, Bool.and_false]
    split <;> rfl

def pathOkV (w : Val) (ixs : List Val) : Bool :=
  match natList ixs with
  | some is => pathOk w is
  | none => false

theorem notOpaque_of_text {v : Val} (hv : (isListV v || isText v) = true) :
    isOpaqueV v = false := by
  cases v <;> simp_all [isListV, isText, isOpaqueV]

/-- **amend_in_depth_any_correct**: a character, string, symbol or list stored into a regular
    N-dimensional array at N in-range indices: one member is replaced per level and the lists are
    rebuilt (`pathOkV`: `kg_asarray` keeps every rebuilt list) -/
theorem amend_in_depth_any_correct (xs : List Val) (v : Val) (ixs : List Val) (w : Val)
    (h : refDyad ":-" (.list xs) (.list (v :: ixs)) = some w)
    (ha : Ext1.notStored (.list xs) = false) (hb : Ext1.notStored (.list (v :: ixs)) = false)
    (hv : (isListV v || isText v) = true) (hp : pathOkV w ixs = true) :
    implDyad ":-" (.list xs) (.list (v :: ixs)) = .ok w := by
  obtain ⟨s, i, is, _, hpn, _, hset⟩ := refAmendDepth_some h
  simp only [pathOkV, hpn] at hp
  simp only [implDyad, implAmendDepth_nat ha hb hpn (notOpaque_of_text hv)]
  exact aidRec_slow v (aidDirect_text hv) _ _ w hset hp

/-- **amend_in_depth_vec_correct**: one index into a stored vector that is no numeric array, any
    value but a dictionary or :undefined -/
theorem amend_in_depth_vec_correct (xs : List Val) (v ix w : Val)
    (h : refDyad ":-" (.list xs) (.list [v, ix]) = some w)
    (ha : Ext1.notStored (.list xs) = false) (hb : Ext1.notStored (.list [v, ix]) = false)
    (hn : numShape (.list xs) = none) (ho : isOpaqueV v = false)
    (hm : Ext1.mixedNum w = false) (hr : repackOk w = true) :
    implDyad ":-" (.list xs) (.list [v, ix]) = .ok w := by
  obtain ⟨s, i, is, _, hpn, _, hset⟩ := refAmendDepth_some h
  simp only [implDyad, implAmendDepth_nat ha hb hpn ho]
  obtain rfl : is = [] := by simpa using natList_length hpn
  obtain ⟨hi, rfl⟩ : i < xs.length ∧ Val.list (xs.set i v) = w := by simpa [deepSet] using hset
  have hdir : aidDirect (.list xs) 1 v = false := by
    cases v <;> simp [aidDirect, hn]
  unfold aidRec
  simp [hdir, pySet_nat xs i v hi, repack_of_repackOk hm hr]

/-! ## Index-in-Depth -/

theorem walkGet_nat (is : List Nat) (a : Val) :
    walkGet a (is.map fun (p : Nat) => (p : Int)) = deepGet a is := by
  -- `walkGet` and `deepGet` are the same recursion, arm for arm, but for the index lookup, which
  -- agrees on natural indices (`Ext1.pyIndex_nat`): each arm closes by unfolding both sides
  fun_induction deepGet a is <;> unfold walkGet <;> simp_all [Ext1.pyIndex_nat]

theorem refIndexDepth_some {xs ixs : List Val} {w : Val}
    (h : refIndexDepth (.list xs) (.list ixs) = some w) :
    ∃ s is, regShape (.list xs) = some s ∧ natList ixs = some is ∧ is.length = s.length ∧
      deepGet (.list xs) is = some w := by
  simp only [refIndexDepth] at h
  split at h
  · rename_i s is hs hp
    obtain ⟨hlen, h⟩ := Option.ite_none_right_eq_some.mp h
    exact ⟨s, is, hs, hp, beq_iff_eq.mp hlen, h⟩
  · simp at h

/-- **index_in_depth_correct**: for a regular N-dimensional array of numbers and N in-range
    indices (or any stored vector and one index), numpy's multi-index returns the reference's
    element -/
theorem index_in_depth_correct (xs ixs : List Val) (w : Val)
    (h : refDyad ":@" (.list xs) (.list ixs) = some w)
    (ha : Ext1.notStored (.list xs) = false)
    (hc : ((numShape (.list xs)).isSome || ixs.length == 1) = true) :
    implDyad ":@" (.list xs) (.list ixs) = .ok w := by
  obtain ⟨s, is, hs, hp, hlen, hget⟩ := refIndexDepth_some h
  obtain ⟨t, rfl, _⟩ := regShape_elems hs
  have hl := natList_length hp
  cases ixs with
  | nil => simp [hl] at hlen
  | cons x r =>
    show implIndexDepth (.list xs) (.list (x :: r)) = _
    unfold implIndexDepth
    simp only [Ext1.intList_of_natList hp, implIndexDepthList, ha, Bool.false_eq_true, if_false]
    cases hnum : (numShape (.list xs)).isSome with
    | true => simp [walkGet_nat, hget, lift]
    | false =>
      simp only [hnum, Bool.false_or, beq_iff_eq] at hc
      obtain ⟨i, rfl⟩ := List.length_eq_one_iff.mp (hl.trans hc)
      cases hx : xs[i]? <;> simp [deepGet, hx] at hget
      -- the case `none` contradicts `hget` and is closed; the case `some` is left
      simp [Ext1.pyIndex_nat, hx, hget, lift]

/-! ## Divide, Power (atomic dyads: the generic extension theorem of Klong.Props.C01) -/

theorem not_list_of_isListV {a : Val} (h : isListV a = false) : ∀ xs, a ≠ .list xs := by
  rintro xs rfl
  simp [isListV] at h

theorem refA2_notList (f : Val → Val → Option Val) {a b : Val} (ha : isListV a = false)
    (hb : isListV b = false) : refA2 f a b = f a b :=
  refA2_atom f (not_list_of_isListV ha) (not_list_of_isListV hb)

theorem ufuncSkip_rank {a b : Val} (h : ufuncSkip a b = false) : anyRankMismatch a b = false := by
  simp only [ufuncSkip, Bool.or_eq_false_iff] at h
  exact h.1.1.1

theorem isNum_notList {a : Val} (h : a.isNum = true) : isListV a = false := by
  cases a <;> simp_all [Val.isNum, isListV]

/-- **divide_correct**: Divide through any nesting depth (float64 quotient per element pair,
    atom-to-list extension); the quotient of two atoms by zero is :undefined -/
theorem divide_correct (a b v : Val) (h : refDyad "%" a b = some v) (hs : ufuncSkip a b = false) :
    implDyad "%" a b = .ok v := by
  rw [refDyad_divide, refDivide] at h
  have h := (Option.ite_none_left_eq_some.mp h).2
  simp only [implDyad, implDivide]
  split at h
  · rename_i hz
    simp only [Bool.and_eq_true] at hz
    cases h
    simp [isNum_notList hz.1.1, isNum_notList hz.1.2, hz.1.2, hz.2]
  · -- the atom test of dyads.py 228–231 cannot fire: `scalarDiv` by a zero atom is undefined
    have hno : (!isListV a && !isListV b && b.isNum && isZeroNum b) = false := by
      refine Bool.eq_false_iff.mpr fun hc => ?_
      simp only [Bool.and_eq_true, Bool.not_eq_true'] at hc
      rw [refA2_notList _ hc.1.1.1 hc.1.1.2] at h
      simp only [scalarDiv, hc.2] at h
      split at h <;> simp at h
    simp only [hno, hs, Bool.false_eq_true, if_false, implA2_eq_refA2, h]

/-- **power_correct**: integer base, non-negative integer exponent, |a^b| ≤ 2^53, through any
    nesting depth -/
theorem power_correct (a b v : Val) (h : refDyad "^" a b = some v) (hs : ufuncSkip a b = false) :
    implDyad "^" a b = .ok v := by
  rw [refDyad_power, refPower] at h
  have h := (Option.ite_none_left_eq_some.mp h).2
  simp only [implDyad, implPower, hs, Bool.false_eq_true, if_false,
    implA2_eq_refA2, h]

theorem scalarPow_value (a b : Int) (v : Val) (h : scalarPow (.int a) (.int b) = some v) :
    0 ≤ b ∧ v = .int (a ^ b.toNat) := by
  obtain ⟨hb, h⟩ := Option.ite_none_left_eq_some.mp h
  obtain ⟨_, h⟩ := Option.ite_none_right_eq_some.mp h
  exact ⟨by omega, (Option.some.inj h).symm⟩

/-! ## Reciprocal -/

theorem refA2_left_atom (f : Val → Val → Option Val) (c : Int) :
    (∀ a : Val, refA2 f (.int c) a = refA1 (f (.int c)) a) ∧
    (∀ xs : List Val, refMapR f (.int c) xs = refMap1 (f (.int c)) xs) := by
  -- the clauses of `refA1` (a list, an atom), then of `refMap1` (`[]`, `cons`)
  apply refA1.mutual_induct
  · intro xs ih
    simp [refA2, refA1, ih]
  · intro a ha
    rw [refA1, refA2_atom f (fun _ => Val.noConfusion) ha]
    exact ha
  · simp [refMapR, refMap1]
  · intro x xs ih1 ih2
    simp [refMapR, refMap1, ih1, ih2]

theorem refMapR_left_atom (f : Val → Val → Option Val) (c : Int) :
    ∀ xs : List Val, refMapR f (.int c) xs = refMap1 (f (.int c)) xs :=
  (refA2_left_atom f c).2

theorem ufuncSkip_left_atom (c : Int) (a : Val) : ufuncSkip (.int c) a = Ext1.hasObjRank2 a := by
  cases a <;> simp [ufuncSkip, anyRankMismatch, anyNpMismatch, Ext1.hasObjRank2]

/-- monads.py 317–321 is dyads.py 228–232 at `a = 1`: the same test for a zero atom, then
    `vec_fn` over the operand where the ufunc pairs `1` with every element -/
theorem implRecip_eq_implDivide (a : Val) : implRecip a = implDivide (.int 1) a := by
  simp only [implRecip, implDivide, ufuncSkip_left_atom, implA2_eq_refA2,
    (refA2_left_atom scalarDiv 1).1]
  rfl

/-- **reciprocal_correct**: `%a` is `1%a`, through any nesting depth; `%0` is :undefined -/
theorem reciprocal_correct (a v : Val) (h : refMonad "%" a = some v) (hs : Ext1.hasObjRank2 a = false) :
    implMonad "%" a = .ok v := by
  -- `refRecip a` is `refDivide 1 a` by definition
  have h' : refDyad "%" (.int 1) a = some v := h
  simp only [implMonad, implRecip_eq_implDivide]
  exact divide_correct (.int 1) a v h' (by rw [ufuncSkip_left_atom, hs])

/-! ## Char -/

mutual
theorem implCharRec_eq : ∀ a : Val, hasEmptyList a = false → implCharRec a = refA1 chrAtom a
  | .list [], h => nomatch h
  | .list (x :: xs), h => by
    simp only [implCharRec, refA1, implCharL_eq (x :: xs) h]
  | .int _, _ | .real _, _ | .chr _, _ | .sym _, _ | .str _, _ | .dict _, _ | .undef, _ => rfl
theorem implCharL_eq : ∀ xs : List Val, hasEmptyListL xs = false → implCharL xs = refMap1 chrAtom xs
  | [], _ => by simp [implCharL, refMap1]
  | x :: xs, h => by
    simp only [hasEmptyListL, Bool.or_eq_false_iff] at h
    simp only [implCharL, refMap1, implCharRec_eq x h.1, implCharL_eq xs h.2]
    cases refA1 chrAtom x <;> cases refMap1 chrAtom xs <;> rfl
end

/-- **char_correct**: Char through any nesting depth (no `[]` inside: there `rec_fn` calls
    `chr(array([]))`, witness `char_witness`) -/
theorem char_correct (a v : Val) (h : refMonad ":#" a = some v) (hs : Ext1.hasObjRank2 a = false) :
    implMonad ":#" a = .ok v := by
  rw [refMonad_char, refChar] at h
  obtain ⟨he, h⟩ := Option.ite_none_left_eq_some.mp h
  simp [implMonad, implChar, hs, implCharRec_eq a ((Bool.not_eq_true _).mp he), h, lift]

/-! ## Undefined -/

/-- **undefined_correct**: `:_a` is 1 on :undefined and 0 on every other value, in the code as in
    the manual -/
theorem undefined_correct (a v : Val) (h : refMonad ":_" a = some v) : implMonad ":_" a = .ok v := by
  cases a <;> cases h <;> rfl

/-! ## Format -/

/- no list anywhere in the value is re-packed by `kg_asarray` with broadcasting -/
mutual
def clashFree : Val → Bool
  | .list xs => !Ext1.objArrayClash xs && clashFreeL xs
  | _ => true
def clashFreeL : List Val → Bool
  | [] => true
  | x :: xs => clashFree x && clashFreeL xs
end

theorem numShape_zero_hasEmpty : ∀ (a : Val) (s : List Nat),
    numShape a = some s → 0 ∈ s → hasEmptyList a = true
  | .list [], _, _, _ => by simp [hasEmptyList]
  | .list (x :: xs), s, h, h0 => by
    obtain ⟨t, rfl, hel⟩ := Ext1.numShape_elems h
    rcases List.mem_cons.mp h0 with h0 | h0
    · simp at h0
    · simp [hasEmptyList, numShape_zero_hasEmpty x t (hel x (by simp)) h0]
  | .int _, _, h, h0 | .real _, _, h, h0 => by
    cases h
    cases h0
  | .chr _, _, h, _ | .sym _, _, h, _ | .str _, _, h, _ | .dict _, _, h, _ | .undef, _, h, _ =>
    nomatch h

theorem zeroSized_false {a : Val} (h : hasEmptyList a = false) : zeroSized a = false := by
  unfold zeroSized
  split
  · rename_i s hs
    exact Bool.eq_false_iff.mpr fun hc => by
      simp [numShape_zero_hasEmpty a s hs (by simpa using hc)] at h
  · rfl

mutual
theorem implFormatRec_eq : ∀ (a v : Val), hasEmptyList a = false → clashFree v = true →
    refA1 fmtAtom a = some v → implFormatRec a = .ok v
  | .list [], v, he, _, _ => nomatch he
  | .list (x :: xs), v, he, hc, h => by
    simp only [refA1, Option.map_eq_some_iff] at h
    obtain ⟨vs, hvs, rfl⟩ := h
    simp only [clashFree, Bool.and_eq_true, Bool.not_eq_true'] at hc
    simp [implFormatRec, zeroSized_false he, implFormatL_eq (x :: xs) vs he hc.2 hvs, repackText,
      hc.1]
  | .int _, v, _, _, h | .chr _, v, _, _, h | .sym _, v, _, _, h | .str _, v, _, _, h => by
    simp_all [implFormatRec, refA1]
  | .real _, v, _, _, h | .dict _, v, _, _, h | .undef, v, _, _, h => nomatch h
theorem implFormatL_eq : ∀ (xs vs : List Val), hasEmptyListL xs = false → clashFreeL vs = true →
    refMap1 fmtAtom xs = some vs → implFormatL xs = .ok (.list vs)
  | [], vs, _, _, h => by
    cases h
    rfl
  | x :: xs, vs, he, hc, h => by
    simp only [hasEmptyListL, Bool.or_eq_false_iff] at he
    rw [refMap1] at h
    obtain ⟨r, rs, hx, hxs, rfl⟩ := bind_cons_eq_some h
    simp only [clashFreeL, Bool.and_eq_true] at hc
    simp [implFormatL, implFormatRec_eq x r he.1 hc.1 hx, implFormatL_eq xs rs he.2 hc.2 hxs]
end

/-- **format_correct**: Format of integers, characters, strings and symbols through any nesting
    depth and any mixture of numeric and object arrays (`rec_fn` formats every member) -/
theorem format_correct (a v : Val) (h : refMonad "$" a = some v) (hs : Ext1.notStored a = false)
    (hc : clashFree v = true) : implMonad "$" a = .ok v := by
  rw [refMonad_format, refFormat] at h
  obtain ⟨he, h⟩ := Option.ite_none_left_eq_some.mp h
  simp [implMonad, implFormat, hs, implFormatRec_eq a v ((Bool.not_eq_true _).mp he) hc h]

/-! ## Form (atoms) -/

theorem notStored_atom {a : Val} (h : isListV a = false) : Ext1.notStored a = false := by
  cases a with
  | list _ => simp [isListV] at h
  | _ => rfl

theorem depthV_atom {a : Val} (h : isListV a = false) : depthV a = 0 := by
  cases a with
  | list _ => simp [isListV] at h
  | _ => rfl

theorem parseNat_some {s : List Nat} {n : Nat} (h : parseNat s = some n) :
    s ≠ [] ∧ s.all isDigit = true ∧ n = digitsVal s 0 := by
  obtain ⟨hc, h⟩ := Option.ite_none_right_eq_some.mp h
  simp only [Bool.and_eq_true, Bool.not_eq_true', List.isEmpty_eq_false_iff] at hc
  exact ⟨hc.1, hc.2, (Option.some.inj h).symm⟩

/-- what the reference calls an integer: an optional "-" and a non-empty run of digits, with that
    value -/
theorem parseInt_some {s : List Nat} {n : Int} (h : parseInt s = some n) :
    ∃ ds, ds ≠ [] ∧ ds.all isDigit = true ∧
      ((s = 45 :: ds ∧ n = -((digitsVal ds 0 : Nat) : Int)) ∨
       (s = ds ∧ n = ((digitsVal ds 0 : Nat) : Int))) := by
  unfold parseInt at h
  split at h
  · rename_i r
    cases hm : parseNat r with
    | none => simp [hm] at h
    | some m =>
      obtain ⟨hne, hd, rfl⟩ := parseNat_some hm
      rw [hm] at h
      exact ⟨r, hne, hd, .inl ⟨rfl, (Option.some.inj h).symm⟩⟩
  · cases hm : parseNat s with
    | none => simp [hm] at h
    | some m =>
      obtain ⟨hne, hd, rfl⟩ := parseNat_some hm
      rw [hm] at h
      exact ⟨s, hne, hd, .inr ⟨rfl, (Option.some.inj h).symm⟩⟩

theorem notWs_ascii_notDot_of_signDigit {c : Nat} (h : c = 45 ∨ isDigit c = true) :
    isWs c = false ∧ c < 128 ∧ c ≠ 46 := by
  simp only [isDigit, Bool.and_eq_true, decide_eq_true_eq] at h
  simp only [isWs, Bool.or_eq_false_iff, Bool.and_eq_false_iff, decide_eq_false_iff_not]
  omega

theorem parseInt_chars {s : List Nat} {n : Int} (h : parseInt s = some n) :
    s ≠ [] ∧ ∀ c ∈ s, c = 45 ∨ isDigit c = true := by
  obtain ⟨ds, hne, hd, hs⟩ := parseInt_some h
  have hd' := List.all_eq_true.mp hd
  rcases hs with ⟨rfl, _⟩ | ⟨rfl, _⟩
  · exact ⟨by simp, fun c hc => (List.mem_cons.mp hc).imp id (hd' c)⟩
  · exact ⟨hne, fun c hc => .inr (hd' c hc)⟩

theorem isRealLit_dot {s : List Nat} (h : isRealLit s = true) : 46 ∈ s := by
  simp only [isRealLit] at h
  split at h
  · rename_i fp hdw
    have hm := (List.dropWhile_sublist isDigit).subset (hdw ▸ List.mem_cons_self)
    split at hm
    · simp [hm]
    · exact hm
  · simp at h

theorem isRealLit_nonempty {s : List Nat} (h : isRealLit s = true) : s.isEmpty = false := by
  cases s with
  | nil => simp [isRealLit] at h
  | cons _ _ => rfl

theorem dropWhile_id {α} {p : α → Bool} :
    ∀ (s : List α), (∀ c ∈ s, p c = false) → s.dropWhile p = s
  | [], _ => rfl
  | c :: t, h => by simp [List.dropWhile, h c (by simp)]

theorem stripWs_id (s : List Nat) (h : ∀ c ∈ s, isWs c = false) : stripWs s = s := by
  unfold stripWs
  rw [dropWhile_id s h, dropWhile_id s.reverse fun c hc => h c (List.mem_reverse.mp hc)]
  simp

theorem mem_stripWs {s : List Nat} {c : Nat} (h : c ∈ stripWs s) : c ∈ s := by
  unfold stripWs at h
  exact List.dropWhile_subset isWs
    (List.mem_reverse.mp (List.dropWhile_subset isWs (List.mem_reverse.mp h)))

theorem pyDigits_digits : ∀ (s : List Nat), s ≠ [] → s.all isDigit = true → pyDigits s = some s
  | [], h, _ => (h rfl).elim
  | [c], _, h => by simp_all [pyDigits]
  | c :: d :: r, _, h => by
    simp only [List.all_cons, Bool.and_eq_true] at h
    have ih := pyDigits_digits (d :: r) (by simp) (by simp [h.2.1, h.2.2])
    rw [pyDigits]
    · simp [h.1, ih]
    · rintro rfl
      simp [isDigit] at h

theorem pyDigits_head {c : Nat} {t : List Nat} (h : isDigit c = false) :
    pyDigits (c :: t) = none := by
  cases t with
  | nil => simp [pyDigits, h]
  | cons d r =>
    by_cases e : d = 95
    · subst e
      simp [pyDigits, h]
    · rw [pyDigits]
      · simp [h]
      · exact e

theorem pyDigits_noDigit (r : List Nat) (h : ∀ c ∈ r, isDigit c = false) : pyDigits r = none := by
  cases r with
  | nil => rfl
  | cons c t => exact pyDigits_head (h c (by simp))

theorem pyInt_parseInt {s : List Nat} {n : Int} (h : parseInt s = some n) :
    pyInt s = some n ∧ s.all (fun c => decide (c < 128)) = true := by
  have hch := (parseInt_chars h).2
  refine ⟨?_, List.all_eq_true.mpr fun c hc =>
    decide_eq_true (notWs_ascii_notDot_of_signDigit (hch c hc)).2.1⟩
  obtain ⟨ds, hne, hd, hs⟩ := parseInt_some h
  unfold pyInt
  rw [stripWs_id s fun c hc => (notWs_ascii_notDot_of_signDigit (hch c hc)).1]
  rcases hs with ⟨rfl, rfl⟩ | ⟨rfl, rfl⟩
  · simp [pyDigits_digits ds hne hd]
  · -- the text starts with a digit: neither sign clause applies
    cases s with
    | nil => exact (hne rfl).elim
    | cons c t =>
      have hc : isDigit c = true := List.all_eq_true.mp hd c (by simp)
      -- the arms of `pyInt`: a leading "-" (`h_1`), a leading "+" (`h_2`), neither (`h_3`)
      split
      case h_3 => simp [pyDigits_digits (c :: t) hne hd]
      all_goals
        rename_i r e
        cases e
        simp [isDigit] at hc

theorem pyInt_noDigit {s : List Nat} (h : noDigitAscii s = true) : pyInt s = none := by
  have hnd : ∀ c ∈ stripWs s, isDigit c = false := by
    intro c hc
    have := (List.all_eq_true.mp h) c (mem_stripWs hc)
    simp only [Bool.and_eq_true, Bool.not_eq_true'] at this
    exact this.2
  unfold pyInt
  -- the arms of `pyInt` as in `pyInt_parseInt`; behind a sign there is no digit either
  split
  case h_3 =>
    rw [pyDigits_noDigit _ hnd]
    rfl
  all_goals
    rename_i r e
    rw [pyDigits_noDigit r fun c hc => hnd c (e ▸ List.mem_cons_of_mem _ hc)]
    rfl

/-- **form_atom_correct**: Form of a string against an integer, character, string or symbol
    template (atoms): the converted value, or :undefined where the text is no notation of the
    kind -/
theorem form_atom_correct (a b v : Val) (ha : isListV a = false) (hb : isListV b = false)
    (h : refDyad ":$" a b = some v) : implDyad ":$" a b = .ok v := by
  rw [refDyad_form, refForm] at h
  have h := (Option.ite_none_left_eq_some.mp h).2
  rw [refA2_notList _ ha hb] at h
  simp only [implDyad, implForm, notStored_atom ha, notStored_atom hb, Bool.or_self,
    Bool.false_eq_true, if_false, depthV_atom ha, depthV_atom hb]
  clear ha hb
  revert h
  -- the clauses of `formAtom`, in its order: an integer template (1: the text is an integer; 2: a
  -- real literal or a text without digits; 3: any other text), a character (4: one character; 5:
  -- any other text), a string (6), a symbol (7: the empty text; 8: a symbol name; 9: no symbol
  -- name), anything else (10).  3, 9, 10 are `none`; in 4–8 the matching clause of `formAtomImpl`
  -- gives the same value.
  fun_cases formAtom a b
  case case1 s k hp =>
    rintro ⟨⟩
    obtain ⟨h1, hch⟩ := parseInt_chars hp
    have h2 : ¬ 46 ∈ s := fun hm => (notWs_ascii_notDot_of_signDigit (hch 46 hm)).2.2 rfl
    obtain ⟨h3, h4⟩ := pyInt_parseInt hp
    simp [formRec, formAtomImpl, h1, h2, h3, h4]
  case case2 s hp hc =>
    rintro ⟨⟩
    by_cases hdot : 46 ∈ s
    · simp [formRec, formAtomImpl, hdot]
    · -- no ".", so no real literal: an ASCII text without digits, which `int()` refuses
      have hnd : noDigitAscii s = true :=
        (Bool.or_eq_true _ _ ▸ hc).resolve_left fun hr => hdot (isRealLit_dot hr)
      have hasc : s.all (fun c => decide (c < 128)) = true :=
        List.all_eq_true.mpr fun c hcm => (Bool.and_eq_true _ _ ▸ List.all_eq_true.mp hnd c hcm).1
      simp [formRec, formAtomImpl, hdot, hasc, pyInt_noDigit hnd]
  case case3 | case9 | case10 => nofun
  all_goals
    rintro ⟨⟩
    simp_all [formRec, formAtomImpl]

/-! ## witnesses: the manual's examples, and what the code does where it deviates from the manual
    or the reference is silent (`by decide`, but for the two through the well-founded `refA2`) -/

/-- the reference defines exactly `v` -/
def optIs (o : Option Val) (v : Val) : Bool :=
  match o with
  | some w => w == v
  | none => false

private def i (n : Int) : Val := .int n
private def l (xs : List Val) : Val := .list xs
private def half : Val := .real 0x3FE0000000000000      -- 0.5

/-- Amend: the manual's five examples, reference and model -/
theorem amend_examples_witness :
    optIs (refAmend (.str [45, 45, 45, 45, 45]) (l [.chr 120, i 1, i 3])) (.str [45, 120, 45, 120, 45]) = true ∧
    (implAmend (.str [45, 45, 45, 45, 45]) (l [.chr 120, i 1, i 3])).is (.str [45, 120, 45, 120, 45]) = true ∧
    optIs (refAmend (l [i 1, i 2, i 3]) (l [i 0, i 1])) (l [i 1, i 0, i 3]) = true ∧
    (implAmend (l [i 1, i 2, i 3]) (l [i 0, i 1])).is (l [i 1, i 0, i 3]) = true ∧
    optIs (refAmend (.str [45, 45, 45, 45, 45, 45, 45]) (l [.str [120, 120], i 1, i 4]))
      (.str [45, 120, 120, 45, 120, 120, 45]) = true ∧
    (implAmend (.str [45, 45, 45, 45, 45, 45, 45]) (l [.str [120, 120], i 1, i 4])).is
      (.str [45, 120, 120, 45, 120, 120, 45]) = true ∧
    optIs (refAmend (.str [97, 98, 99]) (l [.str [100, 101, 102], i 3])) (.str [97, 98, 99, 100, 101, 102]) = true ∧
    (implAmend (.str [97, 98, 99]) (l [.str [100, 101, 102], i 3])).is (.str [97, 98, 99, 100, 101, 102]) = true ∧
    optIs (refAmend (.str [97, 97]) (l [.str [98, 99], i 1])) (.str [97, 98, 99]) = true ∧
    (implAmend (.str [97, 97]) (l [.str [98, 99], i 1])).is (.str [97, 98, 99]) = true := by decide

/-- (/repo at 12321e2) positions name members of the list, whatever its rank — [[1 2] [3 4]]:=5,1
    is [[1 2] 5]; a value of another kind replaces a member of an integer list — [1 2 3]:=0cx,1 is
    [1 0cx 3] -/
theorem amend_members_witness :
    (implAmend (l [l [i 1, i 2], l [i 3, i 4]]) (l [i 5, i 1])).is (l [l [i 1, i 2], i 5]) = true ∧
    optIs (refAmend (l [l [i 1, i 2], l [i 3, i 4]]) (l [i 5, i 1])) (l [l [i 1, i 2], i 5]) = true ∧
    (implAmend (l [i 1, i 2, i 3]) (l [.chr 120, i 1])).is (l [i 1, .chr 120, i 3]) = true ∧
    optIs (refAmend (l [i 1, i 2, i 3]) (l [.chr 120, i 1])) (l [i 1, .chr 120, i 3]) = true ∧
    (implAmend (l [i 1, i 2, i 3]) (l [.str [97, 98], i 0])).is (l [.str [97, 98], i 2, i 3]) = true ∧
    (implAmend (l [i 1, i 2, i 3]) (l [l [i 9, i 9], i 0, i 2])).is (l [l [i 9, i 9], i 2, l [i 9, i 9]]) = true := by
  decide

/-- (/repo at 12321e2) the string grows by the required amount — "abcd":="xyz",2 is "abxyz",
    "abc":="d",3 is "abcd" -/
theorem amend_grow_witness :
    (implAmend (.str [97, 98, 99, 100]) (l [.str [120, 121, 122], i 2])).is (.str [97, 98, 120, 121, 122]) = true ∧
    optIs (refAmend (.str [97, 98, 99, 100]) (l [.str [120, 121, 122], i 2])) (.str [97, 98, 120, 121, 122]) = true ∧
    (implAmend (.str [97, 98, 99]) (l [.str [100], i 3])).is (.str [97, 98, 99, 100]) = true ∧
    optIs (refAmend (.str [97, 98, 99]) (l [.str [100], i 3])) (.str [97, 98, 99, 100]) = true := by decide

/-- deviation (kind only): an integer put into a float64 array comes back real —
    [0.5]:=0,0 is [0.0], the manual's "replaced by b1" gives [0]; likewise [0.5]:-42,0 -/
theorem amend_kind_witness :
    (match implAmend (l [half]) (l [i 0, i 0]) with | .ok (.list [.real _]) => true | _ => false) = true ∧
    optIs (refAmend (l [half]) (l [i 0, i 0])) (l [i 0]) = true ∧
    amendValueOk (l [half]) (i 0) = false ∧
    (match implAmendDepth (l [half]) (l [i 42, i 0]) with | .ok (.list [.real _]) => true | _ => false) = true ∧
    optIs (refAmendDepth (l [half]) (l [i 42, i 0])) (l [i 42]) = true := by decide

/-- outside the reference: indices beyond the end raise, negative indices count from the end,
    overlapping substrings are replaced one after the other, an empty `b` returns `a` -/
theorem amend_outside_witness :
    (refAmend (l [i 1, i 2, i 3]) (l [i 0, i 3])).isNone = true ∧
    Ext1.Res.isErr (implAmend (l [i 1, i 2, i 3]) (l [i 0, i 3])) = true ∧
    (refAmend (l [i 1, i 2, i 3]) (l [i 0, i (-1)])).isNone = true ∧
    (implAmend (l [i 1, i 2, i 3]) (l [i 0, i (-1)])).is (l [i 1, i 2, i 0]) = true ∧
    (refAmend (.str [97, 98, 99]) (l [.str [100, 101], i 4])).isNone = true ∧
    Ext1.Res.isErr (implAmend (.str [97, 98, 99]) (l [.str [100, 101], i 4])) = true ∧
    (implAmend (.str [97, 98, 99]) (l [.str [100, 101], i (-1)])).is (.str [97, 98, 100, 101]) = true ∧
    (refAmend (.str [97, 98, 99]) (l [.str [100, 101], i 1, i 2])).isNone = true ∧
    (implAmend (.str [97, 98, 99]) (l [.str [100, 101], i 1, i 2])).is (.str [97, 100, 100, 101]) = true ∧
    (implAmend (l [i 1, i 2, i 3]) (l [])).is (l [i 1, i 2, i 3]) = true := by decide

/-- Amend-in-Depth / Index-in-Depth: the manual's examples -/
theorem depth_examples_witness :
    optIs (refAmendDepth (l [l [i 1, i 2], l [i 3, i 4]]) (l [i 42, i 0, i 1])) (l [l [i 1, i 42], l [i 3, i 4]]) = true ∧
    (implAmendDepth (l [l [i 1, i 2], l [i 3, i 4]]) (l [i 42, i 0, i 1])).is (l [l [i 1, i 42], l [i 3, i 4]]) = true ∧
    optIs (refAmendDepth (l [l [l [i 0]]]) (l [i 1, i 0, i 0, i 0])) (l [l [l [i 1]]]) = true ∧
    (implAmendDepth (l [l [l [i 0]]]) (l [i 1, i 0, i 0, i 0])).is (l [l [l [i 1]]]) = true ∧
    optIs (refIndexDepth (l [l [i 1, i 2], l [i 3, i 4]]) (l [i 0, i 1])) (i 2) = true ∧
    (implIndexDepth (l [l [i 1, i 2], l [i 3, i 4]]) (l [i 0, i 1])).is (i 2) = true ∧
    optIs (refIndexDepth (l [l [l [i 1]]]) (l [i 0, i 0, i 0])) (i 1) = true ∧
    (implIndexDepth (l [l [l [i 1]]]) (l [i 0, i 0, i 0])).is (i 1) = true ∧
    (implAmendDepth (l [l [i 1, i 2], l [i 3, i 4]]) (l [.str [97], i 0, i 1])).is
      (l [l [i 1, .str [97]], l [i 3, i 4]]) = true := by decide

/-- (/repo at 187c70d) a value of any kind, with any number of indices — [1 2 3]:-0cx,1 is
    [1 0cx 3], [[1 2] [3 4]]:-[[9] 0 1] is [[1 [9]] [3 4]]; outside the reference: fewer indices
    than dimensions address a sub-array, ragged lists have no rank -/
theorem depth_value_witness :
    (implAmendDepth (l [i 1, i 2, i 3]) (l [.chr 120, i 1])).is (l [i 1, .chr 120, i 3]) = true ∧
    optIs (refAmendDepth (l [i 1, i 2, i 3]) (l [.chr 120, i 1])) (l [i 1, .chr 120, i 3]) = true ∧
    (implAmendDepth (l [l [i 1, i 2], l [i 3, i 4]]) (l [l [i 9], i 0, i 1])).is (l [l [i 1, l [i 9]], l [i 3, i 4]]) = true ∧
    optIs (refAmendDepth (l [l [i 1, i 2], l [i 3, i 4]]) (l [l [i 9], i 0, i 1])) (l [l [i 1, l [i 9]], l [i 3, i 4]]) = true ∧
    pathOk (l [l [i 1, l [i 9]], l [i 3, i 4]]) [0, 1] = true ∧
    (refIndexDepth (l [l [i 1, i 2], l [i 3, i 4]]) (l [i 1])).isNone = true ∧
    (implIndexDepth (l [l [i 1, i 2], l [i 3, i 4]]) (l [i 1])).is (l [i 3, i 4]) = true ∧
    (refIndexDepth (l [l [i 1], l [i 2, i 3]]) (l [i 1, i 0])).isNone = true ∧
    Ext1.Res.isErr (implIndexDepth (l [l [i 1], l [i 2, i 3]]) (l [i 1, i 0])) = true ∧
    (refAmendDepth (l [l [i 1], l [i 2, i 3]]) (l [i 42, i 1, i 0])).isNone = true ∧
    (implAmendDepth (l [l [i 1], l [i 2, i 3]]) (l [i 42, i 1, i 0])).is (l [l [i 1], l [i 42, i 3]]) = true := by decide

/-- deviation (/repo at 187c70d; finding amend:repack-broadcast, same root as
    join:numpy-repack-raises): `kg_asarray` of the rebuilt rows broadcasts a (1,1) member against
    (1,) members — [[1] [2] [3]]:-[[9] 0 0] is [[9] [2] [3]], the manual gives [[[9]] [2] [3]];
    the model leaves this class unmodelled (`pathOk` false) -/
theorem depth_repack_witness :
    (match implAmendDepth (l [l [i 1], l [i 2], l [i 3]]) (l [l [i 9], i 0, i 0]) with
     | .unmodelled => true | _ => false) = true ∧
    optIs (refAmendDepth (l [l [i 1], l [i 2], l [i 3]]) (l [l [i 9], i 0, i 0]))
      (l [l [l [i 9]], l [i 2], l [i 3]]) = true ∧
    pathOk (l [l [l [i 9]], l [i 2], l [i 3]]) [0, 0] = false := by decide

/-- Divide / Reciprocal / Power: division of atoms by zero is :undefined; integer powers
    (`refA2` / `implA2` are well-founded recursions: the witnesses are on the scalar functions) -/
theorem arith_witness :
    optIs (refDivide (i 1) (i 0)) .undef = true ∧ (implDivide (i 1) (i 0)).is .undef = true ∧
    optIs (refRecip (i 0)) .undef = true ∧ (implRecip (i 0)).is .undef = true ∧
    (scalarDiv (i 10) (i 8)).isSome = true ∧ (scalarDiv (i 8) (i 0)).isNone = true ∧
    optIs (scalarPow (i 2) (i 8)) (i 256) = true ∧ optIs (scalarPow (i 2) (i 0)) (i 1) = true ∧
    optIs (scalarPow (i (-3)) (i 3)) (i (-27)) = true ∧ optIs (scalarPow (i 0) (i 0)) (i 1) = true ∧
    (scalarPow (i 2) (i (-5))).isNone = true ∧ (scalarPow (i 3) (i 40)).isNone = true ∧
    optIs (scalarPow (i 2) (i 53)) (i 9007199254740992) = true := by decide

/-- non-vacuity through a nesting: [1 [2 3]]^2 -/
theorem power_nested_witness :
    refDyad "^" (l [i 1, l [i 2, i 3]]) (i 2) = some (l [i 1, l [i 4, i 9]]) ∧
    ufuncSkip (l [i 1, l [i 2, i 3]]) (i 2) = false := by
  refine ⟨?_, by decide⟩
  simp [refDyad, refPower, numLeaves, numLeavesL, refA2, refMapL, scalarPow, l, i, powBound]

/-- Char: code point 64 is "@" (the manual's example says 0cA: erratum); nested lists;
    `[]` anywhere makes `rec_fn` call `chr(array([]))`: TypeError (the reference is silent on []) -/
theorem char_witness :
    optIs (refChar (i 64)) (.chr 64) = true ∧ (implChar (i 64)).is (.chr 64) = true ∧
    optIs (refChar (l [i 97, l [i 98, i 99]])) (l [.chr 97, l [.chr 98, .chr 99]]) = true ∧
    (implChar (l [i 97, l [i 98, i 99]])).is (l [.chr 97, l [.chr 98, .chr 99]]) = true ∧
    (refChar (i (-1))).isNone = true ∧ Ext1.Res.isErr (implChar (i (-1))) = true ∧
    Ext1.Res.isErr (implChar (l [])) = true ∧ Ext1.Res.isErr (implChar (l [i 97, l []])) = true ∧
    (refChar (l [])).isNone = true := by decide

/-- Format: the manual's examples; (/repo at 175176c) every member of a numeric array is
    formatted — $[1 2 3] is ["1" "2" "3"]; a numeric array with rows but no elements ([[]],
    shape (1,0)) recurses forever (the reference is silent on []) -/
theorem format_witness :
    optIs (refFormat (i 123)) (.str [49, 50, 51]) = true ∧ (implFormat (i 123)).is (.str [49, 50, 51]) = true ∧
    (implFormat (i (-123))).is (.str [45, 49, 50, 51]) = true ∧
    (implFormat (.str [116, 101, 115, 116])).is (.str [116, 101, 115, 116]) = true ∧
    (implFormat (.chr 120)).is (.str [120]) = true ∧
    optIs (refFormat (.sym [102, 111, 111])) (.str [58, 102, 111, 111]) = true ∧
    (implFormat (.sym [102, 111, 111])).is (.str [58, 102, 111, 111]) = true ∧
    (implFormat (l [i 1, .str [97]])).is (l [.str [49], .str [97]]) = true ∧
    (implFormat (l [i 1, i 2, i 3])).is (l [.str [49], .str [50], .str [51]]) = true ∧
    optIs (refFormat (l [i 1, i 2, i 3])) (l [.str [49], .str [50], .str [51]]) = true ∧
    (implFormat (l [.str [97], l [i 1, i 2]])).is (l [.str [97], l [.str [49], .str [50]]]) = true ∧
    (implFormat (l [])).is (l []) = true ∧
    Ext1.Res.isErr (implFormat (l [l []])) = true ∧ (refFormat (l [l []])).isNone = true := by decide

/-- Form: the manual's examples; (/repo at 22bcc8e, 2fe5617) text that is no number gives
    :undefined — 1:$"abc"; a list of templates extends over one string — [1 2]:$"12" is [12 12];
    outside the reference (Python's int() leniency): " 12", "1_0", "+5" are converted -/
theorem form_witness :
    optIs (formAtom (i 1) (.str [45, 49, 50, 51])) (i (-123)) = true ∧
    (implForm (i 1) (.str [45, 49, 50, 51])).is (i (-123)) = true ∧
    (implForm (.chr 48) (.str [120])).is (.chr 120) = true ∧
    (implForm (.str []) (.str [115, 116])).is (.str [115, 116]) = true ∧
    optIs (formAtom (.sym [120]) (.str [58, 115, 121])) (.sym [115, 121]) = true ∧
    (implForm (.sym [120]) (.str [58, 115, 121])).is (.sym [115, 121]) = true ∧
    (implForm (.sym [120]) (.str [115, 121])).is (.sym [115, 121]) = true ∧
    optIs (formAtom (i 1) (.str [49, 46, 53])) .undef = true ∧ (implForm (i 1) (.str [49, 46, 53])).is .undef = true ∧
    (implForm (.chr 48) (.str [120, 121])).is .undef = true ∧
    optIs (formAtom (i 1) (.str [97, 98, 99])) .undef = true ∧
    (implForm (i 1) (.str [97, 98, 99])).is .undef = true ∧
    (implForm (l [i 1, i 2]) (.str [49, 50])).is (l [i 12, i 12]) = true ∧
    (implForm (l [i 1, .chr 120]) (l [.str [49, 50], .str [121]])).is (l [i 12, .chr 121]) = true ∧
    (formAtom (i 1) (.str [32, 49, 50])).isNone = true ∧ (implForm (i 1) (.str [32, 49, 50])).is (i 12) = true ∧
    (formAtom (i 1) (.str [49, 95, 48])).isNone = true ∧ (implForm (i 1) (.str [49, 95, 48])).is (i 10) = true ∧
    (formAtom (i 1) (.str [43, 53])).isNone = true ∧ (implForm (i 1) (.str [43, 53])).is (i 5) = true ∧
    (implForm (i 1) (.str [49, 95, 95, 48])).is .undef = true ∧
    (implForm (i 1) (.str [49, 101, 53])).is .undef = true := by decide

/-- the reference on the two list cases above: [1 2]:$"12" and [1 0cx]:$["12" "y"] -/
theorem form_list_witness :
    refDyad ":$" (l [i 1, i 2]) (.str [49, 50]) = some (l [i 12, i 12]) ∧
    refDyad ":$" (l [i 1, .chr 120]) (l [.str [49, 50], .str [121]]) = some (l [i 12, .chr 121]) := by
  constructor
  · have p : parseInt [49, 50] = some 12 := by decide
    simp [refDyad, refForm, hasEmptyList, hasEmptyListL, refA2, refMapL, formAtom, l, i, p]
  · have p : parseInt [49, 50] = some 12 := by decide
    simp [refDyad, refForm, hasEmptyList, hasEmptyListL, refA2, refZip, formAtom, l, i, p]

theorem undefined_witness :
    (implUndefined .undef).is (i 1) = true ∧ (implUndefined (i 1)).is (i 0) = true ∧
    (implUndefined (l [])).is (i 0) = true := by decide

end Klong.C01.Ext3
