/-
  C20 — the JSON text codec: `parse (render v) = some v` (json.loads ∘ json.dumps = id on the
  transported universe).  `parseV_render` reads a rendered value back in front of any rest that
  cannot continue a number (`okRest`).
-/
import Klong.Model.C20
import Klong.Props.Digits
namespace Klong.C20
open Klong.Wire

/-! ## digits -/

theorem natDigits_eq (n : Nat) : natDigits n = Nat.toDigits 10 n :=
  digits_eq_toDigits (fun _ _ => rfl) (Nat.lt_succ_self n)

theorem natDigits_val (n : Nat) : digitsVal (natDigits n) = n :=
  natDigits_eq n ▸ toDigits_val n

theorem natDigits_isDigit (n : Nat) : (natDigits n).all isDigit = true :=
  natDigits_eq n ▸ toDigits_isDigit n

theorem natDigits_ne_nil (n : Nat) : natDigits n ≠ [] :=
  natDigits_eq n ▸ Nat.toDigits_ne_nil

theorem natDigits_leadingZero (n : Nat) : leadingZero (natDigits n) = false := by
  rw [natDigits_eq]
  obtain ⟨c, t, e, h0⟩ := toDigits_head n
  by_cases hz : c = '0'
  · rw [h0 hz]
    rfl
  · rw [e]
    unfold leadingZero
    split
    · next heq => exact absurd (List.cons.inj heq).1 hz
    · rfl

theorem numOfToken_digits {ds : List Char} (hd : ds.all isDigit = true) (hne : ds ≠ [])
    (hz : leadingZero ds = false) :
    numOfToken ds = some (.num (digitsVal ds)) ∧
    numOfToken ('-' :: ds) = some (.num (-(digitsVal ds : Int))) := by
  obtain ⟨a, t, rfl⟩ := List.exists_cons_of_ne_nil hne
  have ha : a ≠ '-' := by
    rintro rfl
    simp [isDigit] at hd
  constructor
  · unfold numOfToken
    split
    · next heq =>
      cases heq
      exact absurd rfl ha
    · simp [hd, hz]
  · simp [numOfToken, hd, hz]

theorem numOfToken_intDigits (n : Int) : numOfToken (intDigits n) = some (.num n) := by
  obtain ⟨hp, hm⟩ := numOfToken_digits (natDigits_isDigit n.natAbs) (natDigits_ne_nil _)
    (natDigits_leadingZero _)
  unfold intDigits
  split
  · rw [hm, natDigits_val]
    congr 2
    omega
  · rw [hp, natDigits_val]
    congr 2
    omega

theorem intDigits_numChars (n : Int) : ∀ c ∈ intDigits n, isNumChar c = true := by
  have hd : ∀ c ∈ natDigits n.natAbs, isNumChar c = true := fun c hc => by
    simp [isNumChar, List.all_eq_true.mp (natDigits_isDigit n.natAbs) c hc]
  unfold intDigits
  split
  · intro c hc
    rcases List.mem_cons.mp hc with rfl | hc
    · decide
    · exact hd c hc
  · exact hd

theorem intDigits_ne_nil (n : Int) : intDigits n ≠ [] := by
  unfold intDigits
  split <;> simp [natDigits_ne_nil]

/-- what may follow a value: nothing of it continues a number token.  For the empty rest and for
    one that starts with a literal `]`, `}` or `,` (what the renderer puts behind a value) this
    holds by `rfl`. -/
def okRest (rest : List Char) : Prop := takeNum rest = ([], rest)

theorem takeNum_append (tok rest : List Char) (ht : ∀ c ∈ tok, isNumChar c = true)
    (hr : okRest rest) : takeNum (tok ++ rest) = (tok, rest) := by
  induction tok with
  | nil => exact hr
  | cons a t ih =>
    rw [List.forall_mem_cons] at ht
    simp [takeNum, ht.1, ih ht.2]

/-! ## strings -/

theorem hexDigitAny_hexChar : ∀ d : Fin 16, hexDigitAny (hexChar d.val) = some d.val := by decide

theorem unhex4_hex4 {n : Nat} (h : n < 65536) :
    unhex4 (hexChar (n / 4096 % 16)) (hexChar (n / 256 % 16)) (hexChar (n / 16 % 16))
      (hexChar (n % 16)) = some n := by
  have hd (k : Nat) : hexDigitAny (hexChar (k % 16)) = some (k % 16) :=
    hexDigitAny_hexChar ⟨k % 16, Nat.mod_lt k (by decide)⟩
  simp only [unhex4, hd, Option.some.injEq]
  omega

theorem char_range (c : Char) : c.toNat < 55296 ∨ (57343 < c.toNat ∧ c.toNat < 1114112) := by
  have := c.valid
  simpa [UInt32.isValidChar, Nat.isValidChar] using this

theorem parseStrBody_plain {c : Char} (h1 : c ≠ '"') (h2 : c ≠ '\\') (hp : 32 ≤ c.toNat) (f : Nat)
    (tail : List Char) : parseStrBody (f + 1) (c :: tail) = consStr c (parseStrBody f tail) := by
  have : ¬ c.toNat < 32 := Nat.not_lt.mpr hp
  rw [parseStrBody.eq_def]
  simp [h1, h2, this]

/-- one `\uXXXX`: a character is no surrogate (`char_range`) -/
theorem parseStrBody_u4 {c : Char} (hb : c.toNat < 65536) (f : Nat) (tail : List Char) :
    parseStrBody (f + 1) ('\\' :: 'u' :: hex4 c.toNat ++ tail) =
      consStr c (parseStrBody f tail) := by
  have hr := char_range c
  have hs1 : ¬ (55296 ≤ c.toNat ∧ c.toNat < 56320) := by omega
  have hs2 : ¬ (56320 ≤ c.toNat ∧ c.toNat < 57344) := by omega
  rw [parseStrBody.eq_def]
  simp [hex4, unhex4_hex4 hb, hs1, hs2, Char.ofNat_toNat]

/-- the surrogate pair of a character beyond the basic plane -/
theorem parseStrBody_pair {c : Char} {n : Nat} (hn : c.toNat = 65536 + n) (f : Nat)
    (tail : List Char) :
    parseStrBody (f + 1) ('\\' :: 'u' :: hex4 (55296 + n / 1024) ++
        ('\\' :: 'u' :: hex4 (56320 + n % 1024)) ++ tail) = consStr c (parseStrBody f tail) := by
  have hr := char_range c
  have hs1 : 55296 + n / 1024 < 56320 := by omega
  have hs2 : 56320 + n % 1024 < 57344 := by omega
  have hc : 65536 + n / 1024 * 1024 + n % 1024 = c.toNat := by omega
  rw [parseStrBody.eq_def]
  simp [hex4, unhex4_hex4 (Nat.lt_trans hs1 (by decide)),
    unhex4_hex4 (Nat.lt_trans hs2 (by decide)), hs1, hs2, hc, Char.ofNat_toNat]

theorem parseStrBody_escChar (c : Char) (f : Nat) (tail : List Char) :
    parseStrBody (f + 1) (escChar c ++ tail) = consStr c (parseStrBody f tail) := by
  -- the ten branches of `escChar`, in its order (cases 1–7: the two-character escapes), each with
  -- the tests that failed before it; `split` on the whole chain under `parseStrBody` is slow to
  -- check
  fun_cases escChar c with
  | case8 h1 h2 _ _ _ _ _ hp => exact parseStrBody_plain h1 h2 hp.1 f tail   -- `' '`..`'~'`
  | case9 _ _ _ _ _ _ _ _ hb => exact parseStrBody_u4 hb f tail              -- below 65536
  | case10 _ _ _ _ _ _ _ _ hb n => exact parseStrBody_pair (n := n) (by omega) f tail
  | _ =>
    -- `c` is one of `"`, `\`, newline, return, tab, backspace, form feed: by evaluation
    subst c
    rfl

theorem ite_ne_nil {α : Type} {p : Prop} [Decidable p] {a b : List α} (ha : a ≠ []) (hb : b ≠ []) :
    (if p then a else b) ≠ [] := by
  split <;> assumption

theorem escChar_ne_nil (c : Char) : escChar c ≠ [] := by
  unfold escChar
  -- every branch of the `if` chain is a cons
  repeat' apply ite_ne_nil
  all_goals exact List.cons_ne_nil _ _

theorem escChars_length (cs : List Char) : cs.length ≤ (escChars cs).length := by
  induction cs with
  | nil => simp [escChars]
  | cons c t ih =>
    have := List.length_pos_iff.mpr (escChar_ne_nil c)
    simp only [escChars, List.length_cons, List.length_append]
    omega

theorem parseStrBody_escChars : ∀ (cs : List Char) (f : Nat) (rest : List Char), cs.length < f →
    parseStrBody f (escChars cs ++ '"' :: rest) = some (cs, rest)
  | _, 0, _, h => absurd h (Nat.not_lt_zero _)
  | [], f + 1, rest, _ => rfl
  | c :: t, f + 1, rest, h => by
    rw [escChars, List.append_assoc, parseStrBody_escChar,
      parseStrBody_escChars t f rest (Nat.lt_of_succ_lt_succ h)]
    rfl

/-! ## values -/

mutual
/-- real literals are JSON number tokens that are not integers (what `repr(float)` produces) -/
def WF : JVal → Prop
  | .real l => (∀ c ∈ l.toList, isNumChar c = true) ∧ numOfToken l.toList = some (.real l)
  | .arr xs => WFL xs
  | .obj kvs => WFO kvs
  | _ => True
def WFL : List JVal → Prop
  | [] => True
  | v :: t => WF v ∧ WFL t
def WFO : List (String × JVal) → Prop
  | [] => True
  | (_, v) :: t => WF v ∧ WFO t
end

mutual
/-- fuel that suffices to read a rendered value back: the number of calls of `parseV`,
    `parseElems` and `parseMembers` -/
def sz : JVal → Nat
  | .arr xs => szL xs + 1
  | .obj kvs => szO kvs + 1
  | _ => 1
def szL : List JVal → Nat
  | [] => 0
  | v :: t => sz v + szL t + 1
def szO : List (String × JVal) → Nat
  | [] => 0
  | (_, v) :: t => sz v + szO t + 1
end

theorem numChar_ne {c : Char} (h : isNumChar c = true) (x : Char) (hx : isNumChar x = false) :
    c ≠ x := by
  rintro rfl
  simp [h] at hx

theorem numChar_not_ws {c : Char} (h : isNumChar c = true) : isWs c = false := by
  have hx := numChar_ne h
  simp [isWs, hx ' ' rfl, hx '\n' rfl, hx '\t' rfl, hx '\r' rfl]

theorem real_ne_nil {l : String} (hw : WF (.real l)) : l.toList ≠ [] := by
  intro h
  have := hw.2
  rw [h] at this
  cases this

/-- the last branch of `parseV`: the first character of a number token is none of those the earlier
    branches look for -/
theorem parseV_numtok {f : Nat} {tok rest : List Char} {v : JVal} (hne : tok ≠ [])
    (ht : ∀ c ∈ tok, isNumChar c = true) (hr : okRest rest) (hv : numOfToken tok = some v) :
    parseV (f + 1) (tok ++ rest) = some (v, rest) := by
  have htk := takeNum_append tok rest ht hr
  obtain ⟨a, t, rfl⟩ := List.exists_cons_of_ne_nil hne
  have ha := ht a (by simp)
  have hx := numChar_ne ha
  simp only [List.cons_append] at htk ⊢
  simp [parseV, skipWs, numChar_not_ws ha, hx '"' rfl, hx '[' rfl, hx '{' rfl, hx 'n' rfl,
    hx 't' rfl, hx 'f' rfl, ha, htk, hv]

theorem parseStr_rendered (s : String) {rest : List Char} :
    parseStrBody ((escChars s.toList ++ '"' :: rest).length + 1)
        (escChars s.toList ++ '"' :: rest) = some (s.toList, rest) := by
  apply parseStrBody_escChars
  have := escChars_length s.toList
  simp only [List.length_append, List.length_cons]
  omega

theorem parseV_space (f : Nat) (cs : List Char) : parseV f (' ' :: cs) = parseV f cs := by
  cases f <;> simp [parseV, skipWs, isWs]

theorem parseElems_space (f : Nat) (cs : List Char) :
    parseElems f (' ' :: cs) = parseElems f cs := by
  cases f <;> simp [parseElems, parseV_space]

theorem parseMembers_space (f : Nat) (cs : List Char) :
    parseMembers f (' ' :: cs) = parseMembers f cs := by
  cases f <;> simp [parseMembers, skipWs, isWs]

/-- a rendered value starts with a character that is neither blank nor a closing bracket -/
def HeadOK (cs : List Char) : Prop :=
  ∃ c r, cs = c :: r ∧ isWs c = false ∧ c ≠ ']' ∧ c ≠ '}'

theorem headOK_numChars {l : List Char} (hne : l ≠ []) (h : ∀ c ∈ l, isNumChar c = true) :
    HeadOK l := by
  obtain ⟨a, t, rfl⟩ := List.exists_cons_of_ne_nil hne
  have ha := h a (by simp)
  exact ⟨a, t, rfl, numChar_not_ws ha, numChar_ne ha ']' rfl, numChar_ne ha '}' rfl⟩

theorem render_head (v : JVal) (hw : WF v) : HeadOK (render v) := by
  cases v with
  | null | str s | arr xs | obj kvs => exact ⟨_, _, rfl, by decide⟩
  | bool b => cases b <;> exact ⟨_, _, rfl, by decide⟩
  | num n => exact headOK_numChars (intDigits_ne_nil n) (intDigits_numChars n)
  | real l => exact headOK_numChars (real_ne_nil hw) hw.1

theorem skipWs_head (cs : List Char) (h : HeadOK cs) : skipWs cs = cs := by
  obtain ⟨c, r, rfl, hws, _, _⟩ := h
  simp [skipWs, hws]

theorem headOK_append {a b : List Char} (h : HeadOK a) : HeadOK (a ++ b) := by
  obtain ⟨c, r, rfl, h1, h2, h3⟩ := h
  exact ⟨c, r ++ b, rfl, h1, h2, h3⟩

theorem renderElems_head (v : JVal) (t : List JVal) (hw : WF v) :
    HeadOK (renderElems (v :: t)) := by
  cases t with
  | nil => exact render_head v hw
  | cons w t => exact headOK_append (render_head v hw)

theorem renderMembers_head (k : String) (v : JVal) (t : List (String × JVal)) :
    HeadOK (renderMembers ((k, v) :: t)) := by
  cases t <;> exact ⟨_, _, rfl, by decide⟩

theorem parseV_quote {f : Nat} {r s r' : List Char}
    (h : parseStrBody (r.length + 1) r = some (s, r')) :
    parseV (f + 1) ('"' :: r) = some (.str (String.ofList s), r') := by
  simp [parseV, skipWs, isWs, h]

theorem parseV_arr_of_elems {f : Nat} {cs r' : List Char} {xs : List JVal} (hh : HeadOK cs)
    (h : parseElems f cs = some (xs, r')) : parseV (f + 1) ('[' :: cs) = some (.arr xs, r') := by
  obtain ⟨c, r0, rfl, hws, hc, _⟩ := hh
  have h0 : isWs '[' = false := by decide
  -- `cs` starts with neither a blank nor `]`: not the empty array
  simp [parseV, skipWs, h0, hws, hc, h]

theorem parseV_obj_of_members {f : Nat} {cs r' : List Char} {kvs : List (String × JVal)}
    (hh : HeadOK cs) (h : parseMembers f cs = some (kvs, r')) :
    parseV (f + 1) ('{' :: cs) = some (.obj kvs, r') := by
  obtain ⟨c, r0, rfl, hws, _, hc⟩ := hh
  have h0 : isWs '{' = false := by decide
  -- `cs` starts with neither a blank nor `}`: not the empty object
  simp [parseV, skipWs, h0, hws, hc, h]

theorem parseMembers_last {f : Nat} {r k r2 r4 : List Char} {v : JVal}
    (hk : parseStrBody (r.length + 1) r = some (k, ':' :: ' ' :: r2))
    (hv : parseV f r2 = some (v, '}' :: r4)) :
    parseMembers (f + 1) ('"' :: r) = some ([(String.ofList k, v)], r4) := by
  simp [parseMembers, skipWs, isWs, hk, parseV_space, hv]

theorem parseMembers_more {f : Nat} {r k r2 r4 r5 : List Char} {v : JVal}
    {kvs : List (String × JVal)}
    (hk : parseStrBody (r.length + 1) r = some (k, ':' :: ' ' :: r2))
    (hv : parseV f r2 = some (v, ',' :: ' ' :: r4))
    (hm : parseMembers f r4 = some (kvs, r5)) :
    parseMembers (f + 1) ('"' :: r) = some ((String.ofList k, v) :: kvs, r5) := by
  simp [parseMembers, skipWs, isWs, hk, parseV_space, hv, parseMembers_space, hm]

mutual
theorem parseV_render : ∀ (v : JVal), WF v → ∀ (f : Nat) (rest : List Char),
    sz v < f → okRest rest → parseV f (render v ++ rest) = some (v, rest)
  | _, _, 0, _, hf, _ => absurd hf (Nat.not_lt_zero _)
  | .null, _, f + 1, rest, _, _ | .bool true, _, f + 1, rest, _, _
  | .bool false, _, f + 1, rest, _, _ => by
    simp [parseV, render, skipWs, isWs]
  | .num n, _, f + 1, rest, _, hr =>
    parseV_numtok (intDigits_ne_nil n) (intDigits_numChars n) hr (numOfToken_intDigits n)
  | .real l, hw, f + 1, rest, _, hr => parseV_numtok (real_ne_nil hw) hw.1 hr hw.2
  | .str s, _, f + 1, rest, _, _ => by
    simp only [render, renderStr, List.cons_append, List.append_assoc, List.nil_append]
    rw [parseV_quote (parseStr_rendered s), String.ofList_toList]
  | .arr [], _, f + 1, rest, _, _ | .obj [], _, f + 1, rest, _, _ => by
    simp [parseV, render, renderElems, renderMembers, skipWs, isWs]
  | .arr (v :: t), hw, f + 1, rest, hf, _ => by
    simp only [render, List.cons_append, List.append_assoc, List.nil_append]
    exact parseV_arr_of_elems (headOK_append (renderElems_head v t hw.1))
      (parseElems_render (v :: t) (List.cons_ne_nil v t) hw f rest (Nat.lt_of_succ_lt_succ hf))
  | .obj ((k, v) :: t), hw, f + 1, rest, hf, _ => by
    simp only [render, List.cons_append, List.append_assoc, List.nil_append]
    exact parseV_obj_of_members (headOK_append (renderMembers_head k v t))
      (parseMembers_render ((k, v) :: t) (List.cons_ne_nil _ t) hw f rest
        (Nat.lt_of_succ_lt_succ hf))
theorem parseElems_render : ∀ (xs : List JVal), xs ≠ [] → WFL xs → ∀ (f : Nat) (rest : List Char),
    szL xs < f → parseElems f (renderElems xs ++ ']' :: rest) = some (xs, rest)
  | [], h, _, _, _, _ => absurd rfl h
  | _ :: _, _, _, 0, _, hf => absurd hf (Nat.not_lt_zero _)
  | [v], _, hw, f + 1, rest, hf => by
    rw [szL] at hf
    have hV := parseV_render v hw.1 f (']' :: rest) (by omega) rfl
    simp [parseElems, renderElems, hV, skipWs, isWs]
  | v :: w :: t, _, hw, f + 1, rest, hf => by
    rw [szL] at hf
    have hV := parseV_render v hw.1 f (',' :: ' ' :: (renderElems (w :: t) ++ ']' :: rest))
      (by omega) rfl
    have hE := parseElems_render (w :: t) (List.cons_ne_nil w t) hw.2 f rest (by omega)
    simp only [renderElems, List.append_assoc, List.cons_append]
    simp [parseElems, hV, skipWs, isWs, parseElems_space, hE]
theorem parseMembers_render : ∀ (kvs : List (String × JVal)), kvs ≠ [] → WFO kvs →
    ∀ (f : Nat) (rest : List Char), szO kvs < f →
    parseMembers f (renderMembers kvs ++ '}' :: rest) = some (kvs, rest)
  | [], h, _, _, _, _ => absurd rfl h
  | _ :: _, _, _, 0, _, hf => absurd hf (Nat.not_lt_zero _)
  | [(k, v)], _, hw, f + 1, rest, hf => by
    rw [szO] at hf
    have hV := parseV_render v hw.1 f ('}' :: rest) (by omega) rfl
    simp only [renderMembers, renderStr, List.cons_append, List.append_assoc, List.nil_append]
    rw [parseMembers_last (parseStr_rendered k) hV, String.ofList_toList]
  | (k, v) :: p :: t, _, hw, f + 1, rest, hf => by
    rw [szO] at hf
    have hV := parseV_render v hw.1 f (',' :: ' ' :: (renderMembers (p :: t) ++ '}' :: rest))
      (by omega) rfl
    have hE := parseMembers_render (p :: t) (List.cons_ne_nil p t) hw.2 f rest (by omega)
    simp only [renderMembers, renderStr, List.cons_append, List.append_assoc, List.nil_append]
    rw [parseMembers_more (parseStr_rendered k) hV hE, String.ofList_toList]
end

mutual
theorem sz_le : ∀ (v : JVal), WF v → sz v ≤ (render v).length
  | .null, _ | .bool true, _ | .bool false, _ | .str _, _ => by simp [sz, render, renderStr]
  | .num n, _ => List.length_pos_iff.mpr (intDigits_ne_nil n)
  | .real l, hw => List.length_pos_iff.mpr (real_ne_nil hw)
  | .arr xs, hw => by
    have := szL_le xs hw
    simp only [sz, render, List.length_cons, List.length_append, List.length_nil]
    omega
  | .obj kvs, hw => by
    have := szO_le kvs hw
    simp only [sz, render, List.length_cons, List.length_append, List.length_nil]
    omega
theorem szL_le : ∀ (xs : List JVal), WFL xs → szL xs ≤ (renderElems xs).length + 1
  | [], _ => by simp [szL]
  | [v], hw => by
    have := sz_le v hw.1
    simp only [szL, renderElems]
    omega
  | v :: w :: t, hw => by
    have h1 := sz_le v hw.1
    have h2 := szL_le (w :: t) hw.2
    rw [szL]
    simp only [renderElems, List.length_append, List.length_cons]
    omega
theorem szO_le : ∀ (kvs : List (String × JVal)), WFO kvs → szO kvs ≤ (renderMembers kvs).length + 1
  | [], _ => by simp [szO]
  | [(k, v)], hw => by
    have := sz_le v hw.1
    simp only [szO, renderMembers, List.length_append, List.length_cons]
    omega
  | (k, v) :: p :: t, hw => by
    have h1 := sz_le v hw.1
    have h2 := szO_le (p :: t) hw.2
    rw [szO]
    simp only [renderMembers, List.length_append, List.length_cons]
    omega
end

/-- `json.loads(json.dumps(j)) = j` — for every JSON value (any nesting, any Unicode string
    including escapes and surrogate pairs, any integer) whose reals are number literals. -/
theorem parse_render (v : JVal) (hw : WF v) : parse (render v) = some v := by
  have h := parseV_render v hw ((render v).length + 1) [] (Nat.lt_succ_of_le (sz_le v hw)) rfl
  rw [List.append_nil] at h
  unfold parse
  rw [h]
  simp [skipWs]

end Klong.C20
