/-
  C02 — property theorems: every adverb's implementation model equals the manual's expansion,
  as monadic programs, for every verb in every lawful monad and every operand.
-/
import Klong.Model.C02
import Klong.Props.C01
namespace Klong.C02
open Klong.C01

section generic
variable {m : Type → Type} [Monad m] [LawfulMonad m]

/-! `functools.reduce`, the list comprehensions, `itertools.accumulate` and `zip` are the manual's
recursions; after that the adverbs differ only in their atom / empty / single-element clauses. -/

omit [LawfulMonad m] in
theorem pyReduce_eq_refFold (f : V2 m) (acc : Val) (xs : List Val) :
    pyReduce f acc xs = refFold f acc xs := by
  unfold pyReduce
  induction xs generalizing acc with
  | nil => simp [refFold]
  | cons x xs ih => simp only [List.foldlM_cons, refFold, ih]

theorem pyComp_eq_refMap (f : V1 m) (xs : List Val) : pyComp f xs = refMap f xs := by
  unfold pyComp
  induction xs with
  | nil => simp [refMap]
  | cons x xs ih => simp only [List.mapM_cons, refMap, ih]

theorem pyAccumulate_eq (f : V2 m) (acc : Val) (xs out : List Val) :
    pyAccumulate f acc xs out = (fun rs => out.reverse ++ rs) <$> refScan f acc xs := by
  induction xs generalizing acc out with
  | nil => simp [pyAccumulate, refScan]
  | cons x xs ih =>
    simp [pyAccumulate, refScan, ih, List.reverse_cons, List.append_assoc]

omit [LawfulMonad m] in
theorem pyZipComp_eq (f : V2 m) (xs ys : List Val) : pyZipComp f xs ys = refZipWith f xs ys := by
  induction xs generalizing ys with
  | nil => cases ys <;> simp [pyZipComp, refZipWith]
  | cons x xs ih =>
    cases ys with
    | nil => simp [pyZipComp, refZipWith]
    | cons y ys => simp only [pyZipComp, refZipWith, ih]

theorem implScanIterAux_eq (f : V1 m) (n : Nat) (b : Val) (out : List Val) :
    implScanIterAux f n b (b :: out) = (fun rs => out.reverse ++ rs) <$> refScanIter f n b := by
  induction n generalizing b out with
  | zero => simp [implScanIterAux, refScanIter]
  | succ n ih =>
    simp [implScanIterAux, refScanIter, ih, List.reverse_cons, List.append_assoc]

omit [LawfulMonad m] in
theorem implOver_eq (f : V2 m) (short : Option (List Val → m Val))
    (hs : ∀ s ∈ short, ∀ x xs, s (x :: xs) = refFold f x xs) (a : Val) :
    implOver f short a = refOver f a := by
  unfold implOver refOver
  -- an atom, the empty list, a single element, two or more
  rcases elems a with _ | _ | ⟨x, _ | ⟨y, ys⟩⟩
  · rfl
  · rfl
  · simp [refFold]
  · cases short with
    | none => simp [pyReduce_eq_refFold]
    | some s => simp [hs s rfl]

/-- `f/a` — atom, single element, empty, string and list cases, no shortcut -/
theorem over_eq (f : V2 m) (a : Val) : implOver f none a = refOver f a :=
  implOver_eq f none nofun a

/-- `a f/b` is the fold of f from a over the members of b -/
theorem over_neutral_eq (f : V2 m) (a b : Val) : implOverNeutral f a b = refOverNeutral f a b := by
  unfold implOverNeutral refOverNeutral
  -- an atom, the empty list, a non-empty list
  rcases elems b with _ | _ | ⟨x, xs⟩
  · rfl
  · simp [refFold]
  · simp [refFold, pyReduce_eq_refFold]

theorem implScanOver_eq (f : V2 m) (short : Option (List Val → m Val))
    (hs : ∀ s ∈ short, ∀ x xs,
      s (x :: xs) = (do let r ← refScan f x xs; pure (.list r))) (a : Val) :
    implScanOver f short a = refScanOver f a := by
  unfold implScanOver refScanOver
  -- an atom, the empty list, a non-empty list
  rcases elems a with _ | _ | ⟨x, xs⟩
  · rfl
  · rfl
  · cases short with
    | none => simp [pyAccumulate_eq]
    | some s => simp [hs s rfl]

/-- `f\a` collects the prefixes of the fold -/
theorem scan_eq (f : V2 m) (a : Val) : implScanOver f none a = refScanOver f a :=
  implScanOver_eq f none nofun a

/-- `a f\b` is a, f(a;b1), f(f(a;b1);b2), … -/
theorem scan_neutral_eq (f : V2 m) (a b : Val) :
    implScanOverNeutral f a b = refScanOverNeutral f a b := by
  unfold implScanOverNeutral refScanOverNeutral
  -- an atom, the empty list, a non-empty list
  rcases elems b with _ | _ | ⟨x, xs⟩
  · simp
  · rfl
  · simp [refScan, pyAccumulate_eq]

/-- `f'a` is f(a1),…,f(aN); atom and empty-list clauses -/
theorem each_eq (f : V1 m) (a : Val) : implEach f a = refEach f a := by
  unfold implEach refEach
  split <;> simp [pyComp_eq_refMap]

theorem each_left_eq (f : V2 m) (a b : Val) : implEachLeft f a b = refEachLeft f a b := by
  unfold implEachLeft refEachLeft
  cases elems b <;> simp [pyComp_eq_refMap]

theorem each_right_eq (f : V2 m) (a b : Val) : implEachRight f a b = refEachRight f a b := by
  unfold implEachRight refEachRight
  cases elems b <;> simp [pyComp_eq_refMap]

/-- `f:'a` is f(a1;a2), f(a2;a3), …; atoms and single elements unchanged -/
theorem each_pair_eq (f : V2 m) (a : Val) : implEachPair f a = refEachPair f a := by
  unfold implEachPair refEachPair
  -- an atom, the empty list, a single element, two or more
  rcases elems a with _ | _ | ⟨x, _ | ⟨y, ys⟩⟩
  · rfl
  · rfl
  · rfl
  · simp [pyZipComp_eq]

/-- `n f:*b` applies f exactly n times -/
theorem iterate_eq (f : V1 m) (n : Nat) (b : Val) : implIterate f n b = refIterate f n b := by
  induction n generalizing b with
  | zero => rfl
  | succ n ih => simp only [implIterate, refIterate, ih]

/-- `n f\*b` is b, f(b), …, fⁿ(b) -/
theorem scan_iterating_eq (f : V1 m) (n : Nat) (b : Val) :
    implScanIter f n b = refScanIter f n b := by
  simp [implScanIter, implScanIterAux_eq]

end generic

/-! ### the operator shortcuts (verbs that are operators are pure) -/

theorem ufuncReduce_eq (op : AOp) (x : Val) (xs : List Val) :
    ufuncReduce op (x :: xs) = refFold (m := Option) (refA2 (scalar2 op)) x xs := by
  rw [ufuncReduce, implA2_eq_refA2]
  exact pyReduce_eq_refFold (m := Option) (refA2 (scalar2 op)) x xs

/-- `np.add.reduce` / `subtract` / `multiply` / `min` / `max`, used by Over for operator verbs,
    return what the plain fold of the dyad returns.  Which operator character selects which
    shortcut (`overShortcut`) is not part of the statement. -/
theorem over_shortcut_sound (op : AOp) (a : Val) :
    implOver (m := Option) (refA2 (scalar2 op)) (some (ufuncReduce op)) a
      = refOver (m := Option) (refA2 (scalar2 op)) a :=
  implOver_eq _ _ (fun _ h => by cases h; exact ufuncReduce_eq op) a

theorem ufuncAccumulate_go_eq (op : AOp) (acc : Val) (xs : List Val) :
    (ufuncAccumulate.go op acc xs).map (fun r => acc :: r)
      = refScan (m := Option) (refA2 (scalar2 op)) acc xs := by
  induction xs generalizing acc with
  | nil => simp [ufuncAccumulate.go, refScan]
  | cons y ys ih =>
    simp only [ufuncAccumulate.go, refScan, implA2_eq_refA2, ← ih]
    cases refA2 (scalar2 op) acc y with
    | none => rfl
    | some r => cases h : ufuncAccumulate.go op r ys <;> simp [h]

theorem ufuncAccumulate_eq (op : AOp) (x : Val) (xs : List Val) :
    ufuncAccumulate op (x :: xs)
      = (do let r ← refScan (m := Option) (refA2 (scalar2 op)) x xs; pure (.list r)) := by
  rw [ufuncAccumulate, ← ufuncAccumulate_go_eq]
  cases ufuncAccumulate.go op x xs <;> rfl

/-- `ufunc.accumulate` = the prefixes of the fold, for every `op` (the selection by
    `scanShortcut` is not part of the statement) -/
theorem scan_shortcut_sound (op : AOp) (a : Val) :
    implScanOver (m := Option) (refA2 (scalar2 op)) (some (ufuncAccumulate op)) a
      = refScanOver (m := Option) (refA2 (scalar2 op)) a :=
  implScanOver_eq _ _ (fun _ h => by cases h; exact ufuncAccumulate_eq op) a

/-! ### counting calls -/

theorem logged2_run (name : String) (a b : Val) (l : List (List Val)) :
    (logged2 name a b).run l = (dyadVerb name a b).map fun v => (v, l ++ [[a, b]]) := by
  unfold logged2
  cases dyadVerb name a b <;> rfl

theorem refFold_log_length {name : String} {xs : List Val} {acc v : Val} {l0 log : List (List Val)}
    (h : (refFold (logged2 name) acc xs).run l0 = some (v, log)) :
    log.length = l0.length + xs.length := by
  induction xs generalizing acc l0 with
  | nil =>
    cases h
    rfl
  | cons y ys ih =>
    simp only [refFold, StateT.run_bind, logged2_run, Option.bind_eq_bind, Option.bind_eq_some_iff,
      Option.map_eq_some_iff] at h
    obtain ⟨_, ⟨r, _, rfl⟩, h⟩ := h
    have := ih h
    simp at this ⊢
    omega

/-- in the logging monad the call log of `f/[a1 … aN]` has exactly N−1 entries when no call
    fails -/
theorem over_calls_verb_n_minus_1_times (name : String) (x : Val) (xs : List Val)
    (v : Val) (log : List (List Val))
    (h : (implOver (logged2 name) none (.list (x :: xs))).run [] = some (v, log)) :
    log.length = xs.length := by
  rw [over_eq] at h
  simp only [refOver, elems] at h
  simpa using refFold_log_length h

/-- non-vacuity: a concrete run with a non-commutative verb; the log shows the calls in order -/
example : ((implOver (logged2 ",") none (.list [.int 1, .int 2, .int 3])).run []).map
      (fun p => (p.1.toWire, showLog p.2))
    = some ("(L (i 1) (i 2) (i 3))", "(i 1),(i 2)|(L (i 1) (i 2)),(i 3)") := by
  decide

end Klong.C02
