/-
  C20 — web routes and websocket messages reach their Klong handler exactly once, intact.

  Web: with early capture the server is the specification with its routes held as bound closures
  (`Spec.impl`).  A history changes only the global variables and the running flag (`run_state`), so
  a request after any history is a lookup among the registered routes (`request_after`); the route
  theorems evaluate that lookup.  The JSON text level is in Props/C20Json.lean.
-/
import Klong.Model.C20
import Klong.Props.C20Json
import Klong.Props.Assoc
namespace Klong.C20
open Klong.Wire

theorem lookup_append_some {β : Type} (k : String) (l l' : List (String × β)) :
    List.lookup k (l ++ l') = (List.lookup k l).or (List.lookup k l') :=
  List.lookup_append

/-! ## web: the server and its specification -/

/-- what the registration loop stores for a route under early capture: the closure with the
    wrapped handler and the route bound -/
def mkSlot (e : Path × Wrapped) : Path × Slot := (e.1, .bound ⟨e.2, e.1⟩)

theorem foldl_regStep_early (env : Env) (routes : Routes) (r : Reg) :
    (routes.foldl (regStep .early env) r).table =
      r.table ++ (registered env routes).map mkSlot := by
  induction routes generalizing r with
  | nil => simp [registered]
  | cons e t ih =>
    obtain ⟨p, v⟩ := e
    simp only [List.foldl_cons]
    rw [ih]
    cases v with
    | fn f => by_cases h : f.arity = 1 <;> simp [regStep, registered, h, mkSlot]
    | call | other => simp [regStep, registered]

theorem registered_lookup_cons_ne {env : Env} {q p : Path} {v : EVal} {t : Routes} (hq : p ≠ q) :
    (registered env ((q, v) :: t)).lookup p = (registered env t).lookup p := by
  cases v with
  | fn g => by_cases hg : g.arity = 1 <;> simp [registered, hg, lookup_cons_ite, hq]
  | call | other => simp [registered]

theorem registered_lookup_fn {env : Env} {routes : Routes} {p : Path} {f : Fn}
    (h : routes.lookup p = some (.fn f)) (ha : f.arity = 1) :
    (registered env routes).lookup p = some (wrap env f) := by
  induction routes with
  | nil => cases h
  | cons e t ih =>
    obtain ⟨q, v⟩ := e
    rw [lookup_cons_ite] at h
    by_cases hq : p = q
    · subst hq
      rw [if_pos rfl] at h
      cases h
      simp [registered, ha]
    · rw [registered_lookup_cons_ne hq]
      exact ih (by rwa [if_neg hq] at h)

theorem registered_lookup_none {env : Env} {routes : Routes} {p : Path}
    (h : ∀ e ∈ routes, e.1 ≠ p) : (registered env routes).lookup p = none := by
  induction routes with
  | nil => rfl
  | cons e t ih =>
    rw [List.forall_mem_cons] at h
    rw [registered_lookup_cons_ne (Ne.symm h.1)]
    exact ih h.2

def Spec.impl (a : Spec) (v : Vars) : Server :=
  ⟨a.gets.map mkSlot, a.posts.map mkSlot, v, a.env, a.up⟩

/-- the loop variables `vars` are taken from the built server itself on the right: with early
    capture no closure reads them, so any value would do -/
theorem build_early (env : Env) (gets posts : Routes) :
    build .early env gets posts =
      (specOf env gets posts).impl (build .early env gets posts).vars := by
  simp [build, Spec.impl, specOf, foldl_regStep_early]

theorem request_impl (a : Spec) (v : Vars) (m : Method) (p : Path) (ps : Params) :
    request (a.impl v) m p ps = a.request m p ps := by
  have ht (m) : ((a.impl v).table m).lookup p =
      ((a.table m).lookup p).map fun w => .bound ⟨w, p⟩ := by
    cases m <;> exact lookup_map_val (fun p w => Slot.bound ⟨w, p⟩) _ p
  unfold request Spec.request
  rw [ht, ht]
  cases (a.table m).lookup p <;> cases (a.table m.other).lookup p <;> rfl

theorem step_impl (a : Spec) (v : Vars) (op : Op) :
    step (a.impl v) op = ((a.step op).1.impl v, (a.step op).2) := by
  cases op with
  | req m p ps => simp only [step, Spec.step, request_impl]
  | define n x => rfl
  | webc => cases h : a.up <;> simp [step, Spec.step, Spec.impl, h]

theorem run_impl (a : Spec) (v : Vars) (ops : List Op) :
    run (a.impl v) ops = ((a.run ops).1.impl v, (a.run ops).2) := by
  induction ops generalizing a with
  | nil => rfl
  | cons op ops ih => rw [run, Spec.run, step_impl, ih]

def envAfter (env : Env) : List Op → Env
  | [] => env
  | .define n v :: ops => envAfter (env.define n v) ops
  | _ :: ops => envAfter env ops

def isWebc : Op → Bool
  | .webc => true
  | _ => false

theorem step_webc (s : Server) :
    step s .webc = ({ s with up := false }, .closed (if s.up then 1 else 0), []) := by
  obtain ⟨_, _, _, _, u⟩ := s
  cases u <;> rfl

theorem run_state (s : Server) (ops : List Op) :
    (run s ops).1 = { s with env := envAfter s.env ops, up := s.up && !ops.any isWebc } := by
  induction ops generalizing s with
  | nil => simp [run, envAfter]
  | cons op ops ih =>
    rw [run, ih]
    cases op with
    | req m p ps | define n v => simp [step, envAfter, isWebc]
    | webc => simp [step_webc, envAfter, isWebc]

/-- the state of a server started by `.web(…;gets;posts)` under `env0` after the history `pre` -/
def after (env0 : Env) (gets posts : Routes) (pre : List Op) : Server :=
  (run (build .early env0 gets posts) pre).1

theorem after_eq (env0 : Env) (gets posts : Routes) (pre : List Op) :
    after env0 gets posts pre =
      { build .early env0 gets posts with env := envAfter env0 pre, up := !pre.any isWebc } := by
  rw [after, run_state]
  rfl

def specAfter (env0 : Env) (gets posts : Routes) (pre : List Op) : Spec :=
  ⟨registered env0 gets, registered env0 posts, envAfter env0 pre, !pre.any isWebc⟩

def Routes.of (gets posts : Routes) : Method → Routes
  | .get => gets
  | .post => posts

theorem specAfter_table (env0 : Env) (gets posts : Routes) (pre : List Op) (m : Method) :
    (specAfter env0 gets posts pre).table m = registered env0 (Routes.of gets posts m) := by
  cases m <;> rfl

theorem request_after (env0 : Env) (gets posts : Routes) (pre : List Op) (m : Method) (p : Path)
    (ps : Params) :
    request (after env0 gets posts pre) m p ps =
      (specAfter env0 gets posts pre).request m p ps := by
  rw [after_eq, build_early]
  exact request_impl (specAfter env0 gets posts pre) _ m p ps

theorem step_req_state (s : Server) (m : Method) (p : Path) (ps : Params) :
    (step s (.req m p ps)).1 = s := rfl

theorem step_down {s : Server} (h : s.up = false) (op : Op) :
    (step s op).1.up = false ∧ (step s op).2.2 = [] ∧
      ∀ r, (step s op).2.1 = .resp r → r = .noAnswer := by
  cases op with
  | req m p ps => simp [step, request, h, eq_comm]
  | define n v | webc => simp [step, h]

theorem run_down {s : Server} (h : s.up = false) (ops : List Op) :
    (run s ops).2.2 = [] ∧ ∀ o ∈ (run s ops).2.1, ∀ r, o = .resp r → r = .noAnswer := by
  induction ops generalizing s with
  | nil => simp [run]
  | cons op ops ih =>
    obtain ⟨h1, h2, h3⟩ := step_down h op
    obtain ⟨i1, i2⟩ := ih h1
    exact ⟨by simp [run, h2, i1], List.forall_mem_cons.2 ⟨h3, i2⟩⟩

/-! ## web: the route theorems -/

/-- for every route table (any size), every global environment and every sequence of requests,
    redefinitions and `.webc`, the server built by the registration loop (closures capturing
    `fn`/`route` per iteration) answers and logs exactly like the specification that looks each
    request up in the dictionaries the user passed. -/
theorem run_refines_spec (env : Env) (gets posts : Routes) (ops : List Op) :
    (run (build .early env gets posts) ops).2 = ((specOf env gets posts).run ops).2 := by
  rw [build_early, run_impl]

/-- the function a request to the route of `f` runs after the history `pre`: the current
    definition of the symbol `f` was bound to when `.web` ran, or `f` itself -/
def handlerNow (env0 : Env) (pre : List Op) (f : Fn) : Fn :=
  resolve (envAfter env0 pre) (wrap env0 f)

/-- after any history that did not stop the server, a request to a route whose dictionary entry
    is the monadic function `f` runs exactly one handler body, that of `g = handlerNow …`, with
    exactly the request's parameters, and the body of the response is the text of its result (400
    if it raises; 400 and no invocation if `g` is no longer monadic). -/
theorem route_exactly_once (env0 : Env) (gets posts : Routes) (pre : List Op)
    (m : Method) (p : Path) (ps : Params) (f : Fn)
    (hreg : (Routes.of gets posts m).lookup p = some (.fn f)) (har : f.arity = 1)
    (hup : pre.any isWebc = false) :
    request (after env0 gets posts pre) m p ps =
      if (handlerNow env0 pre f).callArity = 1 then
        (respOf ((handlerNow env0 pre f).beh ps), [((handlerNow env0 pre f).id, ps)])
      else (.bad, []) := by
  rw [request_after, Spec.request, specAfter_table, registered_lookup_fn hreg har]
  simp only [specAfter, hup, invoke, handlerNow, Bool.not_false, Bool.not_true, Bool.false_eq_true,
    if_false]
  split <;> simp [*, respOf]

/-- whatever travels in the other place — a body on a GET, a query string on the URL of a POST —
    the handler of a registered monadic route is called with exactly the query parameters (GET)
    / exactly the form parameters (POST). -/
theorem params_exactly_by_method (env0 : Env) (gets posts : Routes) (pre : List Op)
    (m : Method) (p : Path) (query form : Params) (f : Fn)
    (hreg : (Routes.of gets posts m).lookup p = some (.fn f)) (har : f.arity = 1)
    (hup : pre.any isWebc = false) (hg : (handlerNow env0 pre f).callArity = 1) :
    (requestRaw (after env0 gets posts pre) m p query form).2 =
      [((handlerNow env0 pre f).id, match m with | .get => query | .post => form)] := by
  unfold requestRaw
  rw [route_exactly_once env0 gets posts pre m p _ f hreg har hup]
  cases m <;> simp [hg, paramsFor]

/-- a request whose handler raises is answered 400, the handler body ran once, and the server is
    left exactly as it was: whatever follows is served as if the failing request had not
    happened.  (The last two clauses hold of every request, failing or not: `step_req_state`.) -/
theorem failure_contained (env0 : Env) (gets posts : Routes) (pre : List Op)
    (m : Method) (p : Path) (ps : Params) (f : Fn)
    (hreg : (Routes.of gets posts m).lookup p = some (.fn f)) (har : f.arity = 1)
    (hup : pre.any isWebc = false)
    (hg : (handlerNow env0 pre f).callArity = 1)
    (hraise : (handlerNow env0 pre f).beh ps = .raised) :
    (step (after env0 gets posts pre) (.req m p ps)).2 =
        (.resp .bad, [((handlerNow env0 pre f).id, ps)]) ∧
    (step (after env0 gets posts pre) (.req m p ps)).1 = after env0 gets posts pre ∧
    ∀ ops, run (step (after env0 gets posts pre) (.req m p ps)).1 ops =
           run (after env0 gets posts pre) ops := by
  have h := route_exactly_once env0 gets posts pre m p ps f hreg har hup
  simp only [hg, if_true, hraise, respOf] at h
  exact ⟨by simp only [step, h], rfl, fun _ => rfl⟩

/-- a route whose handler symbol is re-bound between requests to a projection with exactly one
    open slot — whatever the arity of the underlying function and however many arguments are
    fixed — is served: one invocation with exactly the request's parameters, the body is the
    text of the result. -/
theorem projection_handler_served (env0 : Env) (gets posts : Routes) (pre : List Op)
    (m : Method) (p : Path) (ps : Params) (f : Fn)
    (hreg : (Routes.of gets posts m).lookup p = some (.fn f)) (har : f.arity = 1)
    (hup : pre.any isWebc = false) (hopen : (handlerNow env0 pre f).openSlots = 1) :
    request (after env0 gets posts pre) m p ps =
      (respOf ((handlerNow env0 pre f).beh ps), [((handlerNow env0 pre f).id, ps)]) := by
  rw [route_exactly_once env0 gets posts pre m p ps f hreg har hup]
  simp [Fn.callArity, hopen]

/-- a path that is not registered for the method reaches no handler, in every state: 404, or 405
    when the path is registered for the other method, or no answer from a stopped server. -/
theorem unknown_path_no_handler (env0 : Env) (gets posts : Routes) (pre : List Op)
    (m : Method) (p : Path) (ps : Params)
    (hun : (registered env0 (Routes.of gets posts m)).lookup p = none) :
    let s := after env0 gets posts pre
    (request s m p ps).2 = [] ∧
    ((request s m p ps).1 = .notFound ∨ (request s m p ps).1 = .notAllowed ∨
     (request s m p ps).1 = .noAnswer) := by
  intro s
  simp only [s, request_after, Spec.request, specAfter_table, hun]
  split
  · simp
  · split <;> simp

/-- a path that is no key of the method's dictionary is unknown -/
theorem unknown_key_no_handler (env0 : Env) (gets posts : Routes) (pre : List Op)
    (m : Method) (p : Path) (ps : Params)
    (hun : ∀ e ∈ Routes.of gets posts m, e.1 ≠ p) :
    (request (after env0 gets posts pre) m p ps).2 = [] :=
  (unknown_path_no_handler env0 gets posts pre m p ps
    (registered_lookup_none hun)).1

/-- `.webc` on a live server returns 1 (0 on a stopped one); afterwards, whatever is sent or
    redefined, no request is answered and no handler runs. -/
theorem after_shutdown_no_answer (s : Server) (ops : List Op) :
    (step s .webc).2.1 = .closed (if s.up then 1 else 0) ∧
    (run (step s .webc).1 ops).2.2 = [] ∧
    ∀ o ∈ (run (step s .webc).1 ops).2.1, ∀ r, o = .resp r → r = .noAnswer := by
  rw [step_webc]
  exact ⟨rfl, run_down rfl ops⟩

/-- requests issued together and served by the io loop one handler at a time, in whatever order:
    the server is unchanged and each request gets the response and the handler invocation it
    would get alone.  (The order is immaterial because the first clause holds: every request of
    every permutation is served from the same `s`.) -/
theorem burst_independent (s : Server) (reqs : List (Method × Path × Params)) :
    (run s (reqs.map fun r => .req r.1 r.2.1 r.2.2)).1 = s ∧
    (run s (reqs.map fun r => .req r.1 r.2.1 r.2.2)).2.1 =
      reqs.map (fun r => .resp (request s r.1 r.2.1 r.2.2).1) ∧
    (run s (reqs.map fun r => .req r.1 r.2.1 r.2.2)).2.2 =
      reqs.flatMap (fun r => (request s r.1 r.2.1 r.2.2).2) := by
  induction reqs with
  | nil => simp [run]
  | cons r t ih =>
    obtain ⟨i1, i2, i3⟩ := ih
    simp only [List.map_cons, run, step, List.flatMap_cons]
    exact ⟨i1, by rw [i2], by rw [i3]⟩

/-! ### non-vacuity and the late-capture variant -/

def f1 : Fn := { id := 1, arity := 1, beh := fun _ => .ret "one" }
def f2 : Fn := { id := 2, arity := 1, beh := fun ps => .ret ((ps.lookup "k").getD ":undefined") }
def f3 : Fn := { id := 3, arity := 1, beh := fun _ => .raised }
def f1' : Fn := { id := 4, arity := 1, beh := fun _ => .ret "uno" }
/-- `h1::render("<p>";"hello ";)`: a triad with two fixed arguments and one open slot -/
def fProj : Fn := { id := 5, arity := 3, openSlots := 1, beh := fun _ => .ret "<p>hello world" }
/-- `h1::render("<p>";;)`: two open slots, no longer a monad -/
def fProj2 : Fn := { id := 6, arity := 3, openSlots := 2, beh := fun _ => .ret "never" }
def envW : Env := [("h1", .fn f1), ("h2", .fn f2), ("h3", .fn f3)]
def getsW : Routes := [("/a", .fn f1), ("/b", .fn f2), ("/c", .fn f3), ("/skip", .call)]
def postsW : Routes := [("/a", .fn f2)]

example :
    (run (build .early envW getsW postsW)
      [.req .get "/a" [], .req .post "/a" [("k", "é&=")], .req .get "/c" [("q", "1")],
       .req .get "/zzz" [], .req .post "/b" [], .req .get "/skip" [],
       .define "h1" (.fn f1'), .req .get "/a" [("x", "y")],
       .webc, .req .get "/a" [], .webc]).2 =
    ([.resp (.ok "one"), .resp (.ok "é&="), .resp .bad, .resp .notFound, .resp .notAllowed,
      .resp .notFound, .defined, .resp (.ok "uno"), .closed 1, .resp .noAnswer, .closed 0],
     [(1, []), (2, [("k", "é&=")]), (3, [("q", "1")]), (4, [("x", "y")])]) := by
  decide

/-- `h1` re-bound to a projection of a triad with one open slot is served (200), to one with two
    open slots it is answered 400 without running anything; counting the fixed arguments instead of
    the open slots (`callArityFixedCounted`) would demand 2 arguments of the former and answer 400
    for a good monad. -/
example :
    (run (build .early envW getsW postsW)
      [.define "h1" (.fn fProj), .req .get "/a" [("k", "world")],
       .define "h1" (.fn fProj2), .req .get "/a" []]).2 =
    ([.defined, .resp (.ok "<p>hello world"), .defined, .resp .bad], [(5, [("k", "world")])]) ∧
    fProj.callArity = 1 ∧ fProj.callArityFixedCounted = 2 := by
  decide

/-- the hypotheses of `route_exactly_once` / `failure_contained` are satisfiable -/
example : (Routes.of getsW postsW .get).lookup "/c" = some (.fn f3) ∧ f3.arity = 1 ∧
    (handlerNow envW [] f3).beh [] = .raised := by
  refine ⟨rfl, rfl, rfl⟩

/-- if `_get` read `fn_wrapped`/`route` when the request arrives instead of capturing them per
    iteration, `route_exactly_once` would fail already for two routes: the request to `/a` runs
    the handler of `/b`. -/
theorem late_capture_breaks :
    ∃ (env0 : Env) (gets posts : Routes) (m : Method) (p : Path) (ps : Params) (f : Fn),
      (Routes.of gets posts m).lookup p = some (.fn f) ∧ f.arity = 1 ∧
      request (build .late env0 gets posts) m p ps ≠
        (respOf ((resolve env0 (wrap env0 f)).beh ps), [((resolve env0 (wrap env0 f)).id, ps)]) ∧
      request (build .early env0 gets posts) m p ps =
        (respOf ((resolve env0 (wrap env0 f)).beh ps), [((resolve env0 (wrap env0 f)).id, ps)]) :=
  ⟨envW, getsW, [], .get, "/a", [], f1, rfl, rfl, by decide, by decide⟩

/-! ## websocket listen loop -/

namespace Ws

/-- what the property prescribes: one invocation per frame, in arrival order, by the handler that
    is current when the frame arrives, with `json.loads` of the frame -/
def expect (h : Nat) : List Ev → List (Nat × Option JVal)
  | [] => []
  | .redef i :: es => expect i es
  | .frame t :: es => (h, parse t) :: expect h es

/-- every frame is well-formed JSON other than a bare `null`, and the handler returns on it -/
def clean (raises : Nat → JVal → Bool) (h : Nat) : List Ev → Bool
  | [] => true
  | .redef i :: es => clean raises i es
  | .frame t :: es =>
    (match parse t with
     | some j => !isNull j && !raises h j
     | none => false) && clean raises h es

def view (e : Entry) : Nat × Option JVal := (e.1, some e.2)

theorem listen_clean (raises : Nat → JVal → Bool) (s : State) {t : List Char} {j : JVal}
    (ha : s.alive = true) (hp : parse t = some j) (hn : isNull j = false)
    (hr : raises s.handler j = false) :
    listen raises s (.frame t) = (s, [(s.handler, j)]) := by
  unfold listen
  simp [ha, hp, hn, hr]

theorem listen_frame (raises : Nat → JVal → Bool) (s : State) (t : List Char) :
    (listen raises s (.frame t)).1.handler = s.handler ∧
    ((listen raises s (.frame t)).2 = [] ∨
     ∃ j, parse t = some j ∧ (listen raises s (.frame t)).2 = [(s.handler, j)]) := by
  unfold listen
  cases s.alive with
  | false => simp
  | true =>
    cases hp : parse t with
    | none => simp [hp]
    | some j => cases hn : isNull j <;> cases hr : raises s.handler j <;> simp [hp, hn, hr]

/-- for every sequence of frames and `.ws.m` redefinitions in which every frame is JSON other
    than a bare `null` and the handler returns, the listen loop calls `.ws.m` exactly once per
    frame, in arrival order, with the decoded value, using the definition current at arrival —
    and is still listening afterwards. (Partial: a bare `null` frame is not delivered, see
    `ws_null_not_delivered`.) -/
theorem ws_exactly_once_in_order_partial (raises : Nat → JVal → Bool) (evs : List Ev) (h : Nat)
    (hc : clean raises h evs = true) :
    (run raises { alive := true, handler := h } evs).1.alive = true ∧
    (run raises { alive := true, handler := h } evs).2.map view = expect h evs := by
  induction evs generalizing h with
  | nil => simp [run, expect]
  | cons e es ih =>
    cases e with
    | redef i =>
      simp only [clean] at hc
      have := ih i hc
      simpa [run, listen, expect] using this
    | frame t =>
      cases hp : parse t with
      | none => simp [clean, hp] at hc
      | some j =>
        simp only [clean, hp, Bool.and_eq_true, Bool.not_eq_true'] at hc
        obtain ⟨⟨hn, hr⟩, h2⟩ := hc
        have hl := listen_clean raises { alive := true, handler := h } rfl hp hn hr
        simpa [run, hl, expect, hp, view] using ih h h2

/-- with no assumption at all (garbage frames, raising handlers, bare nulls, a loop that has
    already stopped): the invocation log is a subsequence of the prescribed one — no message is
    ever handled twice, out of order, by a stale handler or with a value other than its
    decoding. -/
theorem ws_at_most_once_in_order (raises : Nat → JVal → Bool) (evs : List Ev) (s : State) :
    ((run raises s evs).2.map view).Sublist (expect s.handler evs) := by
  induction evs generalizing s with
  | nil => simp [run, expect]
  | cons e es ih =>
    cases e with
    | redef i => simpa [run, listen, expect] using ih { s with handler := i }
    | frame t =>
      obtain ⟨hh, hl⟩ := listen_frame raises s t
      have ih' := ih (listen raises s (.frame t)).1
      rw [hh] at ih'
      rcases hl with hl | ⟨j, hp, hl⟩
      · simpa [run, expect, hl] using ih'.cons _
      · simpa [run, expect, hl, hp, view] using ih'.cons_cons (s.handler, some j)

/-- the known deviation: a bare `null` frame is swallowed (its decoding `None` is taken for an
    unfilled argument), the next frame is still delivered -/
theorem ws_null_not_delivered :
    (run (fun _ _ => false) { alive := true, handler := 7 }
        [.frame ['n', 'u', 'l', 'l'], .frame ['1']]).2.length = 1 ∧
    (expect 7 [.frame ['n', 'u', 'l', 'l'], .frame ['1']]).length = 2 := by
  decide

/-- non-vacuity: mixed and nested arrays, objects, strings with escapes, redefinition -/
example :
    clean (fun _ _ => false) 1
      [.frame ['[', '1', ',', ' ', '"', 'a', '"', ',', ' ', '[', '2', ']', ']'], .redef 2,
       .frame ['{', '"', 'k', '"', ':', ' ', '"', '\\', 'u', '0', '0', 'e', '9', '"', '}']] = true := by
  decide

end Ws

/-! ## the encoder -/

mutual
theorem encode_sendable : ∀ v : KVal, sendable v = true → encode true v = some (jsonView v)
  | .pyint _, _ | .npint _, _ | .real _, _ | .str _, _ => by simp [encode, jsonView]
  | .arr xs, h => by simp [encode, jsonView, encodeL_sendable xs h]
  | .dict kvs, h => by simp [encode, jsonView, encodeD_sendable kvs h]
  | .undef, h => by simp [sendable] at h
theorem encodeL_sendable : ∀ xs : List KVal, sendableL xs = true →
    encodeL true xs = some (jsonViewL xs)
  | [], _ => by simp [encodeL, jsonViewL]
  | v :: t, h => by
    simp only [sendableL, Bool.and_eq_true] at h
    simp [encodeL, jsonViewL, encode_sendable v h.1, encodeL_sendable t h.2]
theorem encodeD_sendable : ∀ kvs : List (String × KVal), sendableD kvs = true →
    encodeD true kvs = some (jsonViewD kvs)
  | [], _ => by simp [encodeD, jsonViewD]
  | (k, v) :: t, h => by
    simp only [sendableD, Bool.and_eq_true] at h
    simp [encodeD, jsonViewD, encode_sendable v h.1, encodeD_sendable t h.2]
end

/-- the pinned tree's encoder (no numpy scalars) fails on `1+1`, and on a list holding it -/
theorem encode_pinned_fails :
    (encode false (.npint 2)).isNone = true ∧
    (encode false (.arr [.pyint 1, .npint 2])).isNone = true ∧
    (encode true (.arr [.pyint 1, .npint 2])).isSome = true := by
  decide

/-- for every program that amends a dictionary in place and sends it any number of times, the
    frames are the encodings of the dictionary as it was at each send, in order — whatever the
    program does to it afterwards. -/
theorem send_history_at_call (d : List (String × KVal)) (ops : List SOp) :
    sendHistory .atCall d ops = (statesAtSends d ops).map (fun st => send true (.dict st)) := by
  induction ops generalizing d with
  | nil => rfl
  | cons op ops ih => cases op <;> simp only [sendHistory, statesAtSends, ih, List.map_cons]

/-- encoding when the io loop gets to the queued send (from the live object) violates it: send
    {n:1}, amend, send {n:2}, amend to 3 — the peer gets {n:3} twice. -/
theorem deferred_encoding_breaks :
    sendHistory .atFlush [] [.set "n" (.pyint 1), .send, .set "n" (.pyint 2), .send, .set "n" (.pyint 3)] ≠
      (statesAtSends [] [.set "n" (.pyint 1), .send, .set "n" (.pyint 2), .send, .set "n" (.pyint 3)]).map
        (fun st => send true (.dict st)) ∧
    sendHistory .atFlush [] [.set "n" (.pyint 1), .send, .set "n" (.pyint 2), .send, .set "n" (.pyint 3)] =
      [send true (.dict [("n", .pyint 3)]), send true (.dict [("n", .pyint 3)])] := by
  decide

/-! ## JSON text level (`WF`: every real is a JSON number literal, which is what `repr(float)`
    produces) -/

/-- for every sendable Klong value (Python and numpy integers, reals, strings, arrays of any
    nesting, dictionaries), the text `ws(x)` puts on the wire decodes to the JSON reading of the
    value. -/
theorem json_roundtrip (v : KVal) (hs : sendable v = true) (hw : WF (jsonView v)) :
    (send true v).bind parse = some (jsonView v) := by
  simp [send, encode_sendable v hs, parse_render _ hw]

/-- any sequence of JSON values (none a bare null) pushed as their JSON texts is handed to
    `.ws.m` value by value, once each, in order. -/
theorem ws_delivers_rendered (raises : Nat → JVal → Bool) (h : Nat) (js : List JVal)
    (hw : ∀ j ∈ js, WF j) (hn : ∀ j ∈ js, Ws.isNull j = false)
    (hr : ∀ j ∈ js, raises h j = false) :
    Ws.run raises { alive := true, handler := h } (js.map fun j => .frame (render j)) =
      ({ alive := true, handler := h }, js.map fun j => (h, j)) := by
  induction js with
  | nil => rfl
  | cons j t ih =>
    rw [List.forall_mem_cons] at hw hn hr
    have hl := Ws.listen_clean raises { alive := true, handler := h } rfl (parse_render j hw.1)
      hn.1 hr.1
    simp only [List.map_cons, Ws.run, hl, ih hw.2 hn.2 hr.2, List.cons_append, List.nil_append]

/-- non-vacuity: a nested value with a numpy scalar, an escaped string and a dictionary -/
example : sendable (.arr [.npint 2, .str "k", .dict [("k", .arr [.pyint (-3)])]]) = true ∧
    WF (jsonView (.arr [.npint 2, .str "k", .dict [("k", .arr [.pyint (-3)])]])) := by
  refine ⟨by decide, ?_⟩
  simp [jsonView, jsonViewL, jsonViewD, WF, WFL, WFO]

/-- non-vacuity of `WF` on reals: `1.5`, `-2.5e-07` are number literals, `1.` is not -/
example : validNum ['1', '.', '5'] = true ∧ validNum ['-', '2', '.', '5', 'e', '-', '0', '7'] = true ∧
    validNum ['1', '.'] = false := by decide

end Klong.C20
