/-
  C06 — the loops of klongpy/autograd.py (numeric_grad, numeric_jacobian, multi_grad_of_fn):
  what they return and what every probe perturbs.  List bookkeeping only: the theorems hold for
  any scalar type with the operations.
-/
import Klong.Model.C06

namespace Klong.C06

section Lists
variable {β γ : Type}

theorem set_getD_self (x : List β) (i : Nat) (d : β) : x.set i (x.getD i d) = x := by
  by_cases h : i < x.length
  · simp [List.getD, h]
  · rw [List.set_eq_of_length_le (by omega)]

theorem foldl_set_range (c : Nat → β) (k : Nat) (g : List β) (hk : k ≤ g.length) :
    (List.range k).foldl (fun g i => g.set i (c i)) g = (List.range k).map c ++ g.drop k := by
  induction k with
  | zero => simp
  | succ k ih =>
    rw [List.range_succ, List.foldl_append, ih (by omega), List.drop_eq_getElem_cons (by omega)]
    simp only [List.foldl_cons, List.foldl_nil, List.map_append, List.map_cons, List.map_nil,
      List.append_assoc, List.cons_append, List.nil_append]
    rw [List.set_append_right _ _ (by simp)]
    simp only [List.length_map, List.length_range, Nat.sub_self, List.set_cons_zero]

theorem getElem?_flatMap_pair (a b : β → γ) (l : List β) (n : Nat) :
    (l.flatMap fun i => [a i, b i])[n]? = l[n / 2]?.map (if n % 2 = 0 then a else b) := by
  induction l generalizing n with
  | nil => simp
  | cons c l ih =>
    match n with
    | 0 => simp
    | 1 => simp
    | n + 2 => simp [List.flatMap_cons, ih]

theorem setCol_getElem? {J : List (List β)} {j : Nat} {col : List β} {i : Nat} {v : β}
    (hc : col[i]? = some v) : (setCol J j col)[i]? = J[i]?.map (·.set j v) := by
  cases h : J[i]? <;> simp [setCol, List.getElem?_zipWith, hc, h]

theorem foldl_setCol_getElem? {col : Nat → List β} {c : Nat → β} {i : Nat}
    (hc : ∀ j, (col j)[i]? = some (c j)) (l : List Nat) (J : List (List β)) :
    (l.foldl (fun J j => setCol J j (col j)) J)[i]? =
      J[i]?.map fun row => l.foldl (fun r j => r.set j (c j)) row := by
  induction l generalizing J with
  | nil => simp
  | cons j l ih =>
    rw [List.foldl_cons, ih, setCol_getElem? (hc j)]
    cases J[i]? <;> rfl

theorem length_foldl_setCol {col : Nat → List β} {m : Nat} (hc : ∀ j, (col j).length = m)
    (l : List Nat) {J : List (List β)} (hJ : J.length = m) :
    (l.foldl (fun J j => setCol J j (col j)) J).length = m := by
  induction l generalizing J with
  | nil => simpa
  | cons j l ih => exact ih (by simp [setCol, hc, hJ])

end Lists

section Loops
variable {α : Type} [Add α] [Sub α] [Mul α] [Div α] [NatCast α]

-- keep `x.getD i d` as it is written in the model (core simp would turn it into `x[i]?.getD d`)
attribute [-simp] List.getD_eq_getElem?_getD

/-- the two arguments `func` is called with for index `i` -/
def probePair (eps : α) (x : List α) (i : Nat) : List (List α) :=
  [x.set i (x.getD i ((0 : Nat) : α) + eps), x.set i (x.getD i ((0 : Nat) : α) - eps)]

def entry? (J : List (List α)) (i j : Nat) : Option α := J[i]?.bind (·[j]?)

theorem gradStep_eq (f : List α → α) (eps : α) (x g : List α) (pr : List (List α)) (idx : Nat) :
    gradStep f eps ⟨x, g, pr⟩ idx =
      ⟨x, g.set idx (centralDiff f eps x idx), pr ++ probePair eps x idx⟩ := by
  simp [gradStep, centralDiff, probePair, List.set_set, set_getD_self]

theorem foldl_gradStep (f : List α → α) (eps : α) (x : List α) (l : List Nat) (g : List α)
    (pr : List (List α)) :
    l.foldl (gradStep f eps) ⟨x, g, pr⟩ =
      ⟨x, l.foldl (fun g i => g.set i (centralDiff f eps x i)) g,
        pr ++ l.flatMap (probePair eps x)⟩ := by
  induction l generalizing g pr with
  | nil => simp
  | cons i l ih => simp [gradStep_eq, ih]

theorem numGradState_eq (f : List α → α) (eps : α) (x : List α) :
    numGradState f eps x = ⟨x, (List.range x.length).map (centralDiff f eps x),
      (List.range x.length).flatMap (probePair eps x)⟩ := by
  simp [numGradState, foldl_gradStep, foldl_set_range]

theorem numGrad_getElem? {f : List α → α} {eps : α} {x : List α} {idx : Nat} (h : idx < x.length) :
    (numGrad f eps x)[idx]? = some (centralDiff f eps x idx) := by
  simp [numGrad, numGradState_eq, h]

/-- **numeric_grad returns the central difference, component by component.**  For `idx` inside `x`:
    1. component `idx` of the result is `(f(x + eps·e_idx) − f(x − eps·e_idx)) / (2·eps)`;
    2. the calls of `f` made for `idx` are calls number `2·idx` and `2·idx+1`, with those arguments;
    3. in both, every component other than `idx` has the value it has in `x` (a fact about
       `List.set` alone). -/
theorem numgrad_is_central_diff (f : List α → α) (eps : α) (x : List α) (idx : Nat)
    (h : idx < x.length) :
    (numGrad f eps x)[idx]? = some
      ((f (x.set idx (x.getD idx ((0 : Nat) : α) + eps)) -
        f (x.set idx (x.getD idx ((0 : Nat) : α) - eps))) / (((2 : Nat) : α) * eps))
    ∧ (numGradState f eps x).probes[2 * idx]? =
        some (x.set idx (x.getD idx ((0 : Nat) : α) + eps))
    ∧ (numGradState f eps x).probes[2 * idx + 1]? =
        some (x.set idx (x.getD idx ((0 : Nat) : α) - eps))
    ∧ ∀ (t : α) (j : Nat), j ≠ idx → (x.set idx t)[j]? = x[j]? := by
  rw [numGradState_eq]
  refine ⟨by simpa [centralDiff] using numGrad_getElem? (f := f) (eps := eps) h, ?_, ?_,
    fun t j hj => List.getElem?_set_ne (Ne.symm hj)⟩
  · exact (getElem?_flatMap_pair _ _ _ _).trans (by simp [h])
  · exact (getElem?_flatMap_pair _ _ _ _).trans (by simp [h, Nat.mul_add_div])

/-- the result has the shape of the point; `f` is called exactly `2·n` times -/
theorem numgrad_shape (f : List α → α) (eps : α) (x : List α) :
    (numGrad f eps x).length = x.length ∧ (numGradState f eps x).probes.length = 2 * x.length := by
  simp [numGrad, numGradState_eq, List.length_flatMap, probePair, List.map_const', Nat.mul_comm]

/-- the in-place perturbation is undone: the working array ends equal to the point -/
theorem numgrad_restores (f : List α → α) (eps : α) (x : List α) :
    (numGradState f eps x).x = x := by rw [numGradState_eq]

omit [Add α] in
theorem colDiff_getElem? {eps : α} {fp fm : List α} {i : Nat} (hp : i < fp.length)
    (hm : i < fm.length) :
    (colDiff eps fp fm)[i]? =
      some ((fp.getD i ((0 : Nat) : α) - fm.getD i ((0 : Nat) : α)) / (((2 : Nat) : α) * eps)) := by
  simp [colDiff, List.getElem?_zipWith, List.getD_eq_getElem?_getD, List.getElem?_eq_getElem hp,
    List.getElem?_eq_getElem hm]

theorem foldl_jacStep (g : List α → List α) (eps : α) (x : List α) (l : List Nat)
    (J : List (List α)) (pr : List (List α)) :
    l.foldl (jacStep g eps x) ⟨J, pr⟩ =
      ⟨l.foldl (fun J j => setCol J j (colDiff eps (g (x.set j (x.getD j ((0 : Nat) : α) + eps)))
          (g (x.set j (x.getD j ((0 : Nat) : α) - eps))))) J,
        pr ++ l.flatMap (probePair eps x)⟩ := by
  induction l generalizing J pr with
  | nil => simp
  | cons j l ih => simp [jacStep, ih, probePair]

/-- **orientation of numeric_jacobian**: for `g : αⁿ → αᵐ` (every call returning `m` values),
    row `i`, column `j` of the result is the central difference of *output `i`* in
    *input `j`*; the probes are `x` itself, then `x ± eps·e_j` for `j = 0, 1, …` -/
theorem jacobian_is_central_diff (g : List α → List α) (eps : α) (x : List α)
    (hlen : ∀ y, (g y).length = (g x).length) (i j : Nat) (hi : i < (g x).length) (hj : j < x.length) :
    entry? (numJacobian g eps x) i j =
      some (centralDiff (fun y => (g y).getD i ((0 : Nat) : α)) eps x j)
    ∧ (numJacobian g eps x).length = (g x).length
    ∧ (numJacState g eps x).probes = x :: (List.range x.length).flatMap (probePair eps x) := by
  -- entry `i` of column `j`: `centralDiff` of output `i` unfolds to the quotient `colDiff` takes
  have hcol : ∀ j, (colDiff eps (g (x.set j (x.getD j ((0 : Nat) : α) + eps)))
      (g (x.set j (x.getD j ((0 : Nat) : α) - eps))))[i]? =
      some (centralDiff (fun y => (g y).getD i ((0 : Nat) : α)) eps x j) := fun j =>
    colDiff_getElem? (hlen _ ▸ hi) (hlen _ ▸ hi)
  simp only [numJacobian, numJacState, foldl_jacStep]
  refine ⟨?_, length_foldl_setCol (fun j => by simp [colDiff, hlen]) _ (by simp), rfl⟩
  -- row `i` of the column-wise fold is the zero row with entry `j` set for each `j`
  -- (`foldl_setCol_getElem?`), which is `(range n).map` of the entries (`foldl_set_range`)
  simp [entry?, foldl_setCol_getElem? hcol, hi, foldl_set_range, hj]

theorem multiGradState_eq (f : List (List α) → α) (eps : α) (params : List (List α)) :
    multiGradState f eps params =
      ⟨(List.range params.length).map fun i =>
          numGrad (singleParamFn f params i) eps (params.getD i []),
        (List.range params.length).flatMap fun i =>
          (numGradState (singleParamFn f params i) eps (params.getD i [])).probes.map
            (params.set i)⟩ := by
  unfold multiGradState
  -- only `List.range params.length` is generalised: in the step function `params` stays as it is
  induction params.length with
  | zero => rfl
  | succ n ih => simp [List.range_succ, ih, numGrad]

/-- **loss:>[w b …] differentiates one parameter at a time.**  For parameter `j` and index
    `idx` inside it, the result is the central difference of the loss in that one component
    with *every other parameter bound to its original value*; all bindings the loss is
    evaluated under while parameter `j` is processed — the `j`-th block of
    `(multiGradState f eps params).probes` (`multiGradState_eq`) — agree with the originals
    outside `j`. -/
theorem multi_grad_separates (f : List (List α) → α) (eps : α) (params : List (List α))
    (j idx : Nat) (hj : j < params.length) (hidx : idx < (params.getD j []).length) :
    entry? (multiGrad f eps params) j idx = some
      ((f (params.set j ((params.getD j []).set idx ((params.getD j []).getD idx ((0 : Nat) : α) + eps))) -
        f (params.set j ((params.getD j []).set idx ((params.getD j []).getD idx ((0 : Nat) : α) - eps)))) /
        (((2 : Nat) : α) * eps))
    ∧ (multiGrad f eps params).length = params.length
    ∧ ∀ q ∈ (numGradState (singleParamFn f params j) eps (params.getD j [])).probes.map
          (fun v => params.set j v), ∀ j', j' ≠ j → q[j']? = params[j']? := by
  refine ⟨?_, ?_, ?_⟩
  · simp only [entry?, multiGrad, multiGradState_eq, List.getElem?_map, List.getElem?_range hj,
      Option.map_some, Option.bind_some]
    simpa [centralDiff, singleParamFn] using
      numGrad_getElem? (f := singleParamFn f params j) (eps := eps) hidx
  · simp [multiGrad, multiGradState_eq]
  · intro q hq j' hj'
    obtain ⟨v, _, rfl⟩ := List.mem_map.mp hq
    exact List.getElem?_set_ne (Ne.symm hj')

end Loops

end Klong.C06
