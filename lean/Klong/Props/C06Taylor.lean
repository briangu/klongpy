/-
  C06 — truncation error of the central difference `numeric_grad` returns
  (`numgrad_is_central_diff`), for C³ functions with `|f'''| ≤ M` on `[x−h, x+h]`:

      |(f(x+h) − f(x−h)) / (2h) − f'(x)|  ≤  M · h² / 6

  With h = 1e-6 this is the property's "about 1e-5 relative" whenever M·h²/6 ≤ 1e-5·|f'(x)|,
  i.e. |f'''| ≤ 6e7·|f'| near x; IEEE rounding of the quotient is not part of this statement.
-/
import Klong.Props.C06Loops
import Mathlib.Analysis.Calculus.Taylor

namespace Klong.C06

open Set

theorem taylor2 (f : ℝ → ℝ) (hf : ContDiff ℝ 3 f) (x d : ℝ) (hd : d ≠ 0) :
    ∃ ξ ∈ uIoo x (x + d),
      f (x + d) = f x + deriv f x * d + iteratedDeriv 2 f x * d ^ 2 / 2
        + iteratedDeriv 3 f ξ * d ^ 3 / 6 := by
  have hne : x ≠ x + d := fun h => hd (left_eq_add.mp h)
  obtain ⟨ξ, hξ, e⟩ := taylor_mean_remainder_lagrange_iteratedDeriv (n := 2) hne hf.contDiffOn
  refine ⟨ξ, hξ, ?_⟩
  have hk (k : ℕ) (hk : (k : WithTop ℕ∞) ≤ 3) :
      iteratedDerivWithin k f (uIcc x (x + d)) x = iteratedDeriv k f x :=
    iteratedDerivWithin_eq_iteratedDeriv (uniqueDiffOn_uIcc hne) (hf.contDiffAt.of_le hk)
      left_mem_uIcc
  simp only [taylorWithinEval_succ, taylor_within_zero_eval, hk 1 (by norm_num), hk 2 (by norm_num),
    iteratedDeriv_one, smul_eq_mul, Nat.factorial, add_sub_cancel_left] at e
  norm_num at e
  rw [sub_eq_iff_eq_add.mp e]
  ring

/-- the truncation error of the quotient `numeric_grad` computes along a coordinate is of second
    order in the step -/
theorem central_diff_error (f : ℝ → ℝ) (hf : ContDiff ℝ 3 f) (x h M : ℝ) (hh : 0 < h)
    (hM : ∀ t ∈ Icc (x - h) (x + h), |iteratedDeriv 3 f t| ≤ M) :
    |(f (x + h) - f (x - h)) / (2 * h) - deriv f x| ≤ M * h ^ 2 / 6 := by
  obtain ⟨ξ₁, hξ₁, e₁⟩ := taylor2 f hf x h (ne_of_gt hh)
  obtain ⟨ξ₂, hξ₂, e₂⟩ := taylor2 f hf x (-h) (neg_ne_zero.mpr hh.ne')
  have hl : x - h < x := sub_lt_self x hh
  have hr : x < x + h := lt_add_of_pos_right x hh
  rw [uIoo_of_lt hr] at hξ₁
  rw [← sub_eq_add_neg] at hξ₂ e₂
  rw [uIoo_of_gt hl] at hξ₂
  have b₁ := hM ξ₁ ⟨(hl.trans hξ₁.1).le, hξ₁.2.le⟩
  have b₂ := hM ξ₂ ⟨hξ₂.1.le, (hξ₂.2.trans hr).le⟩
  have key : (f (x + h) - f (x - h)) / (2 * h) - deriv f x =
      (iteratedDeriv 3 f ξ₁ + iteratedDeriv 3 f ξ₂) * (h ^ 2 / 12) := by
    rw [e₁, e₂]
    field_simp
    ring
  rw [key, abs_mul, abs_of_nonneg (by positivity : (0 : ℝ) ≤ h ^ 2 / 12)]
  calc |iteratedDeriv 3 f ξ₁ + iteratedDeriv 3 f ξ₂| * (h ^ 2 / 12)
      ≤ (M + M) * (h ^ 2 / 12) :=
        mul_le_mul_of_nonneg_right ((abs_add_le _ _).trans (add_le_add b₁ b₂)) (by positivity)
    _ = M * h ^ 2 / 6 := by ring

/-- **numeric_grad's truncation error**: if `f` is C³ along coordinate `idx`, with third
    derivative bounded by `M` on `[x_idx − eps, x_idx + eps]`, then component `idx` of
    `numeric_grad f x` (over the reals: rounding aside) is within `M·eps²/6` of the partial
    derivative. -/
theorem numgrad_truncation (f : List ℝ → ℝ) (x : List ℝ) (idx : Nat) (hidx : idx < x.length)
    (eps M : ℝ) (heps : 0 < eps)
    (hf : ContDiff ℝ 3 (fun t => f (x.set idx t)))
    (hM : ∀ t ∈ Icc (x.getD idx 0 - eps) (x.getD idx 0 + eps),
      |iteratedDeriv 3 (fun t => f (x.set idx t)) t| ≤ M) :
    ∃ g, (numGrad f eps x)[idx]? = some g ∧
      |g - deriv (fun t => f (x.set idx t)) (x.getD idx 0)| ≤ M * eps ^ 2 / 6 := by
  refine ⟨_, numGrad_getElem? hidx, ?_⟩
  simpa [centralDiff] using
    central_diff_error (fun t => f (x.set idx t)) hf (x.getD idx 0) eps M heps hM

-- for the example below: `M = 6`, the bound reads `|cd − f'(x)| ≤ h²`
theorem iteratedDeriv_three_cube (t : ℝ) : iteratedDeriv 3 (fun t : ℝ => t ^ 3) t = 6 := by
  have h1 : deriv (fun t : ℝ => t ^ 3) = fun t => 3 * t ^ 2 := by
    funext t
    simp
  have h2 : deriv (fun t : ℝ => 3 * t ^ 2) = fun t => 6 * t := by
    funext t
    simp
    ring
  have h3 : deriv (fun t : ℝ => 6 * t) = fun _ => 6 := by
    funext t
    simp
  simp only [iteratedDeriv_succ, iteratedDeriv_zero, h1, h2, h3]

example (x h : ℝ) (hh : 0 < h) :
    |((x + h) ^ 3 - (x - h) ^ 3) / (2 * h) - deriv (fun t : ℝ => t ^ 3) x| ≤ 6 * h ^ 2 / 6 :=
  central_diff_error (fun t : ℝ => t ^ 3) (by fun_prop) x h 6 hh
    (by intro t _; rw [iteratedDeriv_three_cube]; norm_num)

/-- for the cube the error is exactly `h²`: the bound is attained -/
example (x h : ℝ) (hh : 0 < h) :
    |((x + h) ^ 3 - (x - h) ^ 3) / (2 * h) - 3 * x ^ 2| = h ^ 2 := by
  have : ((x + h) ^ 3 - (x - h) ^ 3) / (2 * h) - 3 * x ^ 2 = h ^ 2 := by
    field_simp
    ring
  rw [this, abs_of_nonneg (by positivity)]

end Klong.C06
