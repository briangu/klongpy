/-
  C12 — the lexer functions one by one: scanning loops return an index `≥ i` inside the text,
  token readers advance when they return a token, the guarded `startswith` loop of
  `read_sys_comment` ends.
-/
import Klong.Model.C12
namespace Klong.C12

theorem skipSpaceGo_bounds (cfg : Cfg) (ign : Bool) (s : List Char) (i : Nat) :
    i ≤ skipSpaceGo cfg ign s i ∧ skipSpaceGo cfg ign s i ≤ i + s.length := by
  fun_induction skipSpaceGo cfg ign s i <;> simp_all <;> omega

theorem shiftedGo_bounds (s : List Char) (i : Nat) :
    i ≤ shiftedGo s i ∧ shiftedGo s i ≤ i + s.length := by
  fun_induction shiftedGo s i <;> simp_all <;> omega

theorem skipGo_bounds (cfg : Cfg) (inC ign : Bool) (s : List Char) (i : Nat) :
    i ≤ skipGo cfg inC ign s i ∧ skipGo cfg inC ign s i ≤ i + s.length := by
  fun_induction skipGo cfg inC ign s i <;> simp_all
  all_goals omega

theorem readNumGo_bounds (cfg : Cfg) (s : List Char) (i : Nat) (f : Bool) :
    i ≤ (readNumGo cfg s i f).1 ∧ (readNumGo cfg s i f).1 ≤ i + s.length + 1 := by
  fun_induction readNumGo cfg s i f <;> simp_all
  -- the `+ 1`: after an exponent sign `read_num` steps over the next character, there or not
  case case4 c cs i f h1 h2 hx => cases cs <;> simp_all [isSign]
  all_goals omega

theorem readStringGo_bounds (s : List Char) (i : Nat) (acc : List Char) :
    i ≤ (readStringGo s i acc).1 ∧ (readStringGo s i acc).1 ≤ i + s.length := by
  fun_induction readStringGo s i acc <;> simp_all <;> omega

theorem readSymGo_bounds (cfg : Cfg) (s : List Char) (i : Nat) (acc : List Char) :
    i ≤ (readSymGo cfg s i acc).1 ∧ (readSymGo cfg s i acc).1 ≤ i + s.length := by
  fun_induction readSymGo cfg s i acc <;> simp_all <;> omega

theorem adverbsGo_bounds (s : List Char) (i : Nat) (acc : List Node) :
    i ≤ (adverbsGo s i acc).1 ∧ (adverbsGo s i acc).1 ≤ i + s.length := by
  fun_induction adverbsGo s i acc <;> simp_all <;> omega

/-! ## the lexer functions on `(t, i)` -/

theorem cmatch_lt {t : Text} {i : Nat} {c : Char} (h : cmatch t i c = true) : i < t.length :=
  (List.getElem?_eq_some_iff.mp (eq_of_beq h)).1

theorem cmatch2_lt {t : Text} {i : Nat} {a b : Char} (h : cmatch2 t i a b = true) :
    i + 1 < t.length := by
  simp [cmatch2] at h
  exact cmatch_lt h.2

/-- `read_list` steps over its closing character if it is there -/
theorem cmatch_step {t : Text} {i : Nat} (d : Char) (hi : i ≤ t.length + 1) :
    i ≤ (if cmatch t i d = true then i + 1 else i) ∧
      (if cmatch t i d = true then i + 1 else i) ≤ t.length + 1 := by
  split
  · have := cmatch_lt ‹cmatch t i d = true›
    omega
  · omega

section
variable (cfg : Cfg) (t : Text) (i : Nat)

theorem skipSpace_bounds (ign : Bool) :
    i ≤ skipSpace cfg t i ign ∧ skipSpace cfg t i ign ≤ i + (t.length - i) := by
  simpa [skipSpace, List.length_drop] using skipSpaceGo_bounds cfg ign (t.drop i) i

theorem readShiftedComment_bounds :
    i ≤ readShiftedComment t i ∧ readShiftedComment t i ≤ i + (t.length - i) := by
  simpa [readShiftedComment, List.length_drop] using shiftedGo_bounds (t.drop i) i

theorem skip_bounds (ign : Bool) :
    i ≤ skip cfg t i ign ∧ skip cfg t i ign ≤ i + (t.length - i) := by
  simpa [skip, List.length_drop] using skipGo_bounds cfg false ign (t.drop i) i

/-- `t.length + 1`: `read_num` may stop one past the end -/
theorem skip_le {t : Text} {i : Nat} (ign : Bool) (hi : i ≤ t.length + 1) :
    i ≤ skip cfg t i ign ∧ skip cfg t i ign ≤ t.length + 1 := by
  have := skip_bounds cfg t i ign
  omega

theorem readString_bounds :
    i ≤ (readString t i).1 ∧ (readString t i).1 ≤ i + (t.length - i) := by
  simpa [readString, List.length_drop] using readStringGo_bounds (t.drop i) i []

theorem readSym_eq (m : PState) :
    ∃ x, readSym cfg t i m = ((readSymGo cfg (t.drop i) i []).1, .sym x) := by
  unfold readSym
  dsimp only
  split
  · exact ⟨_, rfl⟩
  · split
    · split <;> exact ⟨_, rfl⟩
    · exact ⟨_, rfl⟩

theorem readSym_spec (m : PState) :
    i ≤ (readSym cfg t i m).1 ∧ (readSym cfg t i m).1 ≤ i + (t.length - i) ∧
      (readSym cfg t i m).2.isNone = false := by
  obtain ⟨x, h⟩ := readSym_eq cfg t i m
  rw [h]
  simpa [List.length_drop, Node.isNone] using readSymGo_bounds cfg (t.drop i) i []

theorem peekAdverb_bounds :
    ((peekAdverb t i).2 = none → (peekAdverb t i).1 = i) ∧
    ((peekAdverb t i).2 ≠ none →
      i < (peekAdverb t i).1 ∧ (peekAdverb t i).1 ≤ t.length) := by
  unfold peekAdverb
  split
  · rename_i h
    simp only [Bool.and_eq_true, decide_eq_true_eq] at h
    simp
    omega
  · split
    · rename_i h
      simp only [Bool.and_eq_true, decide_eq_true_eq] at h
      simp
      omega
    · simp

theorem adverbs_bounds :
    i ≤ (adverbsGo (t.drop i) i []).1 ∧
      (adverbsGo (t.drop i) i []).1 ≤ i + (t.length - i) := by
  simpa [List.length_drop] using adverbsGo_bounds (t.drop i) i []

end

section
variable {cfg : Cfg} {t : Text} {i : Nat}

theorem slice_nil_of_le {p q : Nat} (h : q ≤ p) : slice t p q = [] := by
  simp [slice, Nat.sub_eq_zero_of_le h]

theorem readNum_spec {i' : Nat} {o : Option Node} (h : readNum cfg t i = (i', o)) :
    i ≤ i' ∧ (i < t.length → i' ≤ t.length + 1) ∧
      ∀ v, o = some v → i < i' ∧ v.isNone = false := by
  unfold readNum at h
  dsimp only at h
  have h1 : i ≤ (if cmatch t i '-' then i + 1 else i) ∧
      (if cmatch t i '-' then i + 1 else i) ≤ i + 1 := by
    split <;> omega
  generalize (if cmatch t i '-' then i + 1 else i) = i1 at h h1
  have hb := readNumGo_bounds cfg (t.drop i1) i1 false
  rw [List.length_drop] at hb
  generalize readNumGo cfg (t.drop i1) i1 false = r at h hb
  -- the token is the slice `t[i:i']`, and neither `float()` nor `int()` accepts the empty string
  have nonempty {ok : List Char → Bool} (hp : ok (slice t i r.1) = true) (h0 : ok [] = false) :
      i < r.1 := by
    refine Nat.lt_of_not_le fun hle => ?_
    rw [slice_nil_of_le hle, h0] at hp
    cases hp
  -- a float (`pyFloatOk`) or an integer (`pyIntOk`): the same argument
  split at h
  all_goals
    obtain ⟨rfl, rfl⟩ := Prod.mk.inj h
    refine ⟨by omega, by omega, fun v hv => ?_⟩
    split at hv
    · cases hv
      exact ⟨nonempty ‹_› rfl, rfl⟩
    · cases hv

theorem readNum_progress {i' : Nat} {v : Node} (h : readNum cfg t i = (i', some v)) : i < i' :=
  ((readNum_spec h).2.2 v rfl).1

theorem readSym_progress (m : PState) {c : Char}
    (h : t[i]? = some c) (hs : isSymbolic cfg c = true) : i < (readSym cfg t i m).1 := by
  obtain ⟨hi, rfl⟩ := List.getElem?_eq_some_iff.mp h
  obtain ⟨x, hx⟩ := readSym_eq cfg t i m
  rw [hx, List.drop_eq_getElem_cons hi]
  simp only [readSymGo, hs, if_true]
  have := readSymGo_bounds cfg (t.drop (i + 1)) (i + 1) [t[i]]
  omega

theorem readOp_spec (hi : i < t.length) :
    i < (readOp t i).1 ∧ (readOp t i).1 ≤ t.length ∧ (readOp t i).2.isNone = false := by
  unfold readOp
  split
  · rename_i h
    simp only [Bool.or_eq_true] at h
    have : i + 1 < t.length := by
      rcases h with h | h <;> exact cmatch2_lt h
    simp [Node.isNone]
    omega
  · simp [Node.isNone]
    omega

end

/-! ## `.comment(marker)`: the guarded loop ends -/

theorem startsWith_length {s a : List Char} (h : startsWith s a = true) :
    a.length ≤ s.length := by
  fun_induction startsWith s a <;> simp_all

theorem findSub_bounds {a s : List Char} {j r : Nat} (h : findSub a s j = some r) :
    j ≤ r ∧ (r - j) + a.length ≤ s.length := by
  -- `findSub`: end of the text with an empty marker, with another; the marker starts here; not
  fun_induction findSub a s j
  · simp_all
  · simp_all
  · rename_i c cs j hs
    simp only [Option.some.injEq] at h
    subst h
    have := startsWith_length hs
    simp at this ⊢
    omega
  · rename_i c cs j hs ih
    have := ih h
    simp
    omega

/-- The loop stops before its bound `b` runs out: it goes round only while the marker, not empty,
    still fits after `i + j + 1`, so `j < |t| - i`; `b + (i + j)` is the same in every round. -/
theorem commentLoop_stops {cfg : Cfg} (hg : cfg.guardEmptyMarker = true) (t : Text) (a : List Char)
    (i : Nat) :
    ∀ (b j : Nat), 1 ≤ b → t.length + 1 ≤ b + (i + j) →
      ∃ r, commentLoop cfg t a i b j = some r ∧ j ≤ r ∧
        (r = j ∨ i + r + a.length ≤ t.length) := by
  intro b
  induction b with
  | zero =>
    intro j h0 h
    omega
  | succ b ih =>
    intro j _ h
    unfold commentLoop
    split
    · rename_i hc
      simp only [hg, Bool.not_true, Bool.false_or, Bool.and_eq_true, Bool.not_eq_true'] at hc
      have hl := startsWith_length hc.2
      have ha : 0 < a.length := by
        cases a with
        | nil => simp at hc
        | cons => simp
      simp [List.length_drop] at hl
      obtain ⟨r, hr, h1, h2⟩ := ih (j + 1) (by omega) (by omega)
      exact ⟨r, hr, by omega, by omega⟩
    · exact ⟨j, rfl, Nat.le_refl j, .inl rfl⟩

/-- `read_sys_comment` once `findSub` has found the marker at `j0`; the last clause (the first
    marker fits) is what the parser's step bound needs -/
theorem commentLoop_ends {cfg : Cfg} (hg : cfg.guardEmptyMarker = true) {t : Text} {a : List Char}
    {i j0 : Nat} (h : findSub a (t.drop i) 0 = some j0) :
    ∃ j, commentLoop cfg t a i (t.length + 1) j0 = some j ∧ j0 ≤ j ∧
      (j = j0 ∨ i + j + a.length ≤ t.length) ∧ j0 + a.length ≤ t.length - i := by
  have hfb := findSub_bounds h
  simp only [List.length_drop] at hfb
  obtain ⟨j, hj, h1, h2⟩ :=
    commentLoop_stops hg t a i (t.length + 1) j0 (by omega) (by omega)
  exact ⟨j, hj, h1, h2, by omega⟩

end Klong.C12
