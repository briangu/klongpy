/-
  C01 extension 2 — implementation model (numpy calls as list functions) = reference, per verb,
  for every list length and every count.  Reshape rests on the window / tile / slice lemmas of
  Props/C01Struct, the other verbs on facts about `isort`, `refRange` and `idxOf` proved here.
-/
import Klong.Model.C01Ext2
import Klong.Props.C01Struct
namespace Klong.C01.Ext2

/-- Bool view of a model result, for `decide`d examples (`Val` has no `DecidableEq`) -/
def _root_.Klong.C01.Res.isOk (r : Res) (v : Val) : Bool :=
  match r with
  | .ok w => w == v
  | _ => false

/-- the last step of a model function: the value, guarded by the test for the modelled operand
    class (`split` fails on those tests: they hold a `fun` under `List.all`) -/
theorem guard_or {c : Bool} {v : Val} :
    (if c then Res.ok v else .unmodelled) = .unmodelled ∨
      (if c then Res.ok v else .unmodelled) = .ok v := by
  cases c
  · exact .inl rfl
  · exact .inr rfl

/-! ## the reference and the model at the verbs of this extension

  The clauses of `refMonad` / `refDyad` (Klong.Model.C01) and `implMonad` / `implDyad` for the verbs
  treated here, stated once: unfolding the dispatch with `simp` makes Lean derive the equations of
  some sixty string-keyed clauses anew in every proof.  On operand kinds that have no clause the
  reference is `none`, and `cases h` refutes `h : refMonad v a = some _`. -/

theorem implMonad_expand : implMonad "&" = implExpand := rfl
theorem implMonad_range : implMonad "?" = implRange := rfl
theorem implMonad_group : implMonad "=" = implGroup := rfl
theorem implMonad_transpose : implMonad "+" = implTranspose := rfl
theorem implMonad_floor : implMonad "_" = implFloor := rfl
theorem implMonad_shape : implMonad "^" = implShape := rfl
theorem implDyad_reshape : implDyad ":^" = implReshape := rfl

theorem refMonad_expand_int (n : Int) : refMonad "&" (.int n) =
    if n < 0 then none else some (.list (List.replicate n.toNat (.int 0))) := rfl

theorem refMonad_expand_list (xs : List Val) :
    refMonad "&" (.list xs) = (natList xs).map fun cs => .list (refExpand cs) := rfl

theorem refMonad_range_str (cs : List Nat) :
    refMonad "?" (.str cs) = (joinChars (refRange vmatch (strChars cs))).map .str := rfl

theorem refMonad_range_list (xs : List Val) : refMonad "?" (.list xs) =
    if xs.any (fun x => match x with | .chr _ => true | _ => false) &&
       xs.any (fun x => match x with | .str _ => true | _ => false) then none
    else some (.list (refRange vmatch xs)) := rfl

theorem refMonad_group_str (cs : List Nat) : refMonad "=" (.str cs) =
    some (groupsVal (refGroup vmatch (strChars cs))) := rfl

theorem refMonad_group_list (xs : List Val) : refMonad "=" (.list xs) =
    if xs.any (fun x => match x with | .chr _ => true | _ => false) &&
       xs.any (fun x => match x with | .str _ => true | _ => false) then none
    else some (groupsVal (refGroup vmatch xs)) := rfl

theorem refMonad_shape_cons (x : Val) (xs : List Val) : refMonad "^" (.list (x :: xs)) =
    if shapeAmb (.list (x :: xs)) then none
    else some (.list (ofNats (refShape (.list (x :: xs))))) := rfl

/-- the sources on which the reference defines Reshape -/
def flatSrc : Val → Bool
  | .list xs => xs.all (fun x => match x with | .list _ => false | .str _ => false | _ => true)
  | .str _ => false
  | .chr _ => false
  | _ => true

theorem refDyad_reshape_list (dimsV : List Val) (b : Val) : refDyad ":^" (.list dimsV) b =
    match natList dimsV with
    | some ds =>
      if ds.isEmpty || ds.any (· == 0) || (flattenAll b).isEmpty || !flatSrc b then none
      else some (reshapeFill (ds.length + 1) ds (flattenAll b) 0)
    | none => none := rfl

theorem refDyad_reshape_int (n : Int) (b : Val) : refDyad ":^" (.int n) b =
    if n ≤ 0 || (flattenAll b).isEmpty || !flatSrc b then none
    else some (reshapeFill 2 [n.toNat] (flattenAll b) 0) := rfl

/-! ## operand classes -/

theorem asInts_eq {xs : List Val} {ns : List Int} (h : asInts xs = some ns) : xs = ns.map .int := by
  induction xs generalizing ns with
  | nil =>
    cases h
    rfl
  | cons x xs ih =>
    cases x with
    | int n =>
      obtain ⟨r, hr, rfl⟩ := Option.map_eq_some_iff.mp h
      rw [List.map_cons, ← ih hr]
    | _ => cases h

theorem asInts_map (ns : List Int) : asInts (ns.map .int) = some ns := by
  induction ns with
  | nil => rfl
  | cons n ns ih => simp [asInts, ih]

theorem asInts_of_natList {xs : List Val} {cs : List Nat} (h : natList xs = some cs) :
    asInts xs = some (cs.map Int.ofNat) := by
  induction xs generalizing cs with
  | nil =>
    cases h
    rfl
  | cons x xs ih =>
    cases x <;> simp only [natList, reduceCtorEq] at h
    split at h
    · cases h
    · obtain ⟨r, hr, rfl⟩ := Option.map_eq_some_iff.mp h
      simp [asInts, ih hr, Int.toNat_of_nonneg (Int.not_lt.mp ‹_›)]

theorem toNat_ofNat_map (cs : List Nat) : (cs.map Int.ofNat).map Int.toNat = cs := by
  simp [Function.comp_def]

theorem any_neg_ofNat (cs : List Nat) : (cs.map Int.ofNat).any (· < 0) = false := by
  simp [Int.ofNat_eq_natCast]

/-! ## Expand / Where -/

theorem npRepeatArange_eq_flatten (cs : List Nat) (i : Nat) : npRepeatArange i cs =
    ((cs.zipIdx i).map fun (c, j) => List.replicate c (Val.int (j : Nat))).flatten := by
  induction cs generalizing i with
  | nil => rfl
  | cons c cs ih => rw [npRepeatArange, ih, List.zipIdx_cons, List.map_cons, List.flatten_cons]

theorem npRepeatArange_eq_refExpand (cs : List Nat) : npRepeatArange 0 cs = refExpand cs :=
  npRepeatArange_eq_flatten cs 0

theorem implExpand_list {xs : List Val} {cs : List Nat} (h : natList xs = some cs) :
    implExpand (.list xs) = .ok (.list (refExpand cs)) := by
  cases xs with
  | nil =>
    cases h
    rfl
  | cons x xs =>
    simp only [implExpand, asInts_of_natList h, any_neg_ofNat, toNat_ofNat_map,
      npRepeatArange_eq_refExpand, Bool.false_eq_true, if_false]

/-- **expand_correct**: wherever the reference defines Expand/Where (an integer ≥ 0, a list of
    integers ≥ 0 of any length, the empty list) the implementation model returns that value -/
theorem expand_correct (a v : Val) (h : refMonad "&" a = some v) : implMonad "&" a = .ok v := by
  cases a with
  | int n =>
    rw [refMonad_expand_int, Option.ite_none_left_eq_some] at h
    cases h.2
    simp [implMonad_expand, implExpand, npRepeatArange, h.1]
  | list xs =>
    rw [refMonad_expand_list] at h
    obtain ⟨cs, hcs, rfl⟩ := Option.map_eq_some_iff.mp h
    exact implExpand_list hcs
  | _ => cases h

example : (implExpand (.list [.int 1, .int 0, .int 2])).isOk (.list [.int 0, .int 2, .int 2]) = true := by
  decide

/-! ## Floor -/

/-- **floor_correct**: Floor of an integer is the integer (within the float64-exact range the
    model states explicitly) -/
theorem floor_correct (n : Int) (h : floorExact n = true) :
    implMonad "_" (.int n) = .ok (.int n) ∧ refMonad "_" (.int n) = some (.int n) :=
  ⟨by simp [implMonad_floor, implFloor, h], rfl⟩

example : (implFloor (.int (-7))).isOk (.int (-7)) = true := by decide

/-! ## Transpose -/

/-- the reference's member test of Transpose is `asRows` -/
theorem mapM_asRows (xs : List Val) :
    xs.mapM (fun r => match r with | .list ys => some ys | _ => none) = asRows xs := by
  induction xs with
  | nil => rfl
  | cons x xs ih =>
    rw [List.mapM_cons, ih]
    cases x with
    | list r =>
      rw [asRows]
      cases asRows xs <;> rfl
    | _ => rfl

theorem refMonad_transpose (x : Val) (xs : List Val) : refMonad "+" (.list (x :: xs)) =
    match asRows (x :: xs) with
    | some rs =>
      if rs.all (fun r => r.length == (rs.headD []).length) && !(rs.headD []).isEmpty
          && rs.all (fun r => r.all (fun x => x.isAtom))
      then some (.list ((transposeRows rs).map .list)) else none
    | none => none := by
  rw [← mapM_asRows]
  rfl

theorem npTranspose2_eq {r : List Val} {rs : List (List Val)} (hne : r ≠ [])
    (hlen : ∀ row ∈ r :: rs, row.length = r.length) :
    npTranspose2 (r :: rs) r.length = transposeRows (r :: rs) := by
  rw [transposeRows, if_neg (by simpa using hne)]
  apply List.map_congr_left
  intro j hj
  generalize r :: rs = rows at hlen
  induction rows with
  | nil => rfl
  | cons row rows ih =>
    have h : j < row.length := by simpa [hlen row List.mem_cons_self] using hj
    simp [h, ← ih fun x hx => hlen x (List.mem_cons_of_mem _ hx)]

/-- **transpose_correct**: wherever the reference defines Transpose (a matrix of atoms, any
    size; the empty list) and the operand is in a modelled class, `np.transpose` gives the
    reference's value -/
theorem transpose_correct (a v : Val) (h : refMonad "+" a = some v) :
    implMonad "+" a = .unmodelled ∨ implMonad "+" a = .ok v := by
  cases a with
  | list xs =>
    cases xs with
    | nil =>
      cases h
      exact .inr rfl
    | cons x xs =>
      rw [refMonad_transpose] at h
      cases x with
      | list r =>
        cases hrs : asRows xs with
        | none =>
          rw [asRows, hrs] at h
          cases h
        | some rs =>
          simp only [asRows, hrs, Option.map_some, List.headD_cons, Option.ite_none_right_eq_some,
            Bool.and_eq_true, List.all_eq_true, beq_iff_eq, Bool.not_eq_true',
            List.isEmpty_eq_false_iff] at h
          -- the reference's three tests: equal row lengths, a non-empty first row, atoms only
          obtain ⟨⟨⟨hlen, hne⟩, -⟩, h⟩ := h
          cases h
          simp only [implMonad_transpose, implTranspose, List.all_cons, isScalarMember,
            Bool.false_and, Bool.false_eq_true, if_false, asRows, hrs, Option.map_some,
            List.headD_cons]
          rw [npTranspose2_eq hne hlen]
          exact guard_or
      | _ => cases h
  | _ => cases h

example : (implTranspose (.list [.list [.int 1, .int 2, .int 3], .list [.int 4, .int 5, .int 6]])).isOk
    (.list [.list [.int 1, .int 4], .list [.int 2, .int 5], .list [.int 3, .int 6]]) = true := by
  decide

/-! ## sorting: `isort` under any order, then the orders it is run with -/

theorem insertBy_perm {α} (le : α → α → Bool) (x : α) :
    ∀ l : List α, (insertBy le x l).Perm (x :: l)
  | [] => .refl _
  | y :: ys => by
    rw [insertBy]
    split
    · exact .refl _
    · exact ((insertBy_perm le x ys).cons y).trans (.swap x y ys)

theorem isort_perm {α} (le : α → α → Bool) : ∀ l : List α, (isort le l).Perm l
  | [] => .refl _
  | x :: xs => (insertBy_perm le x _).trans ((isort_perm le xs).cons x)

theorem insertBy_pairwise {α} (le : α → α → Bool)
    (htot : ∀ a b, le a b = false → le b a = true)
    (htr : ∀ a b c, le a b = true → le b c = true → le a c = true) (x : α) (l : List α)
    (h : l.Pairwise (fun a b => le a b = true)) :
    (insertBy le x l).Pairwise (fun a b => le a b = true) := by
  induction l with
  | nil => exact List.pairwise_singleton _ _
  | cons y ys ih =>
    obtain ⟨hy, hys⟩ := List.pairwise_cons.mp h
    rw [insertBy]
    split
    next hxy => exact h.cons (List.forall_mem_cons.mpr ⟨hxy, fun z hz => htr _ _ _ hxy (hy z hz)⟩)
    next hxy =>
      refine (ih hys).cons fun z hz => ?_
      rcases List.mem_cons.mp ((insertBy_perm le x ys).subset hz) with rfl | hz
      · exact htot _ _ (Bool.eq_false_iff.mpr hxy)
      · exact hy z hz

theorem isort_pairwise {α} (le : α → α → Bool)
    (htot : ∀ a b, le a b = false → le b a = true)
    (htr : ∀ a b c, le a b = true → le b c = true → le a c = true) :
    ∀ l : List α, (isort le l).Pairwise (fun a b => le a b = true)
  | [] => .nil
  | x :: xs => insertBy_pairwise le htot htr x _ (isort_pairwise le htot htr xs)

theorem lexLe_total (p q : Int × Nat) : lexLe p q = false → lexLe q p = true := by
  simp [lexLe]
  omega

theorem lexLe_trans (p q r : Int × Nat) :
    lexLe p q = true → lexLe q r = true → lexLe p r = true := by
  simp [lexLe]
  omega

theorem natLe_total (a b : Nat) : natLe a b = false → natLe b a = true := by
  simp [natLe]
  omega

theorem natLe_trans (a b c : Nat) : natLe a b = true → natLe b c = true → natLe a c = true := by
  simp [natLe]
  omega

theorem intLe_total (a b : Int) : intLe a b = false → intLe b a = true := by
  simp [intLe]
  omega

/-! ## Grade-Up / Grade-Down

  The manual: "Return a list of indices reflecting the desired order", "to sort a list a, use
  a@<a".  The reference therefore accepts ANY permutation of the indices that puts the elements
  in order (`IsGrade`); the order among equal elements is not prescribed. -/

def IsGrade (down : Bool) (keys : List Int) (r : List Nat) : Prop :=
  r.Perm (List.range keys.length) ∧
  (r.map fun i => keys.getD i 0).Pairwise (fun a b => if down then b ≤ a else a ≤ b)

theorem isort_zipIdx_perm {α} (le : α × Nat → α × Nat → Bool) (l : List α) :
    ((isort le l.zipIdx).map (·.2)).Perm (List.range l.length) := by
  have h := (isort_perm le l.zipIdx).map (·.2)
  rwa [List.zipIdx_map_snd 0 l, ← List.range_eq_range'] at h

theorem npArgsort_perm (keys : List Int) : (npArgsort keys).Perm (List.range keys.length) :=
  isort_zipIdx_perm lexLe keys

/-- the one fact about the sort that sortedness and stability rest on -/
theorem npArgsort_lex (keys : List Int) :
    (npArgsort keys).Pairwise fun i j => lexLe (keys.getD i 0, i) (keys.getD j 0, j) = true := by
  have hget : ∀ p ∈ isort lexLe keys.zipIdx, (keys.getD p.2 0, p.2) = p := by
    intro p hp
    have h := List.mem_zipIdx_iff_getElem?.mp ((isort_perm lexLe keys.zipIdx).subset hp)
    rw [List.getD_eq_getElem?_getD, h]
    rfl
  unfold npArgsort
  rw [List.pairwise_map]
  apply (isort_pairwise lexLe lexLe_total lexLe_trans keys.zipIdx).imp_of_mem
  intro p q hp hq h
  rwa [hget p hp, hget q hq]

theorem npArgsort_sorted (keys : List Int) :
    ((npArgsort keys).map fun i => keys.getD i 0).Pairwise (· ≤ ·) := by
  rw [List.pairwise_map]
  apply (npArgsort_lex keys).imp
  intro i j h
  simp only [lexLe, Bool.or_eq_true, Bool.and_eq_true, decide_eq_true_eq, beq_iff_eq] at h
  omega

/-- **grade_sorts**: the modelled Grade-Up is a permutation of 0..n-1 that puts the elements
    in ascending order, Grade-Down one that puts them in descending order — for every vector
    length, with or without repeated elements -/
theorem grade_sorts (keys : List Int) :
    IsGrade false keys (gradeUp keys) ∧ IsGrade true keys (gradeDown keys) := by
  refine ⟨⟨npArgsort_perm keys, ?_⟩, ⟨?_, ?_⟩⟩
  · simpa [gradeUp] using npArgsort_sorted keys
  · exact (List.reverse_perm _).trans (npArgsort_perm keys)
  · unfold gradeDown
    rw [List.map_reverse, List.pairwise_reverse]
    simpa using npArgsort_sorted keys

/-- **grade_stable**: among equal elements the model lists the positions in ascending order
    (Grade-Down: descending) — Python's `sorted` on `(a[x], x)` keys, as `kg_argsort` documents -/
theorem grade_stable (keys : List Int) :
    (gradeUp keys).Pairwise (fun i j => keys.getD i 0 = keys.getD j 0 → i < j) ∧
    (gradeDown keys).Pairwise (fun i j => keys.getD i 0 = keys.getD j 0 → j < i) := by
  -- distinct positions in `(key, position)` order: equal keys leave the positions ascending
  have hup : (npArgsort keys).Pairwise (fun i j => keys.getD i 0 = keys.getD j 0 → i < j) := by
    apply (((npArgsort_perm keys).nodup_iff.mpr List.nodup_range).and (npArgsort_lex keys)).imp
    intro i j ⟨hne, h⟩ he
    simp only [lexLe, Bool.or_eq_true, Bool.and_eq_true, decide_eq_true_eq, beq_iff_eq] at h
    omega
  refine ⟨hup, ?_⟩
  unfold gradeDown
  rw [List.pairwise_reverse]
  exact hup.imp (fun h he => h he.symm)

/-- on distinct elements the sorting permutation is unique: this is what justifies modelling
    `np.argsort` (numpy's default, not stable, sort) by the stable sort on integer vectors
    without repeated elements -/
theorem grade_unique (keys : List Int) (hnd : keys.Nodup) (r : List Nat)
    (h : IsGrade false keys r) : r = gradeUp keys := by
  obtain ⟨hp, hs⟩ := h
  have hg := (grade_sorts keys).1
  refine (hp.trans hg.1.symm).eq_of_pairwise (fun i j hi hj h1 h2 => ?_)
    (List.pairwise_map.mp hs) (List.pairwise_map.mp hg.2)
  exact (List.getD_inj (by simpa using hp.subset hi) (by simpa using hg.1.subset hj) hnd).mp
    (Int.le_antisymm h1 h2)

def gradeKeys : Val → Option (List Int)
  | .str cs => some (cs.map fun (c : Nat) => (c : Int))
  | .list xs => asInts xs
  | _ => none

/-- **grade_correct**: on strings and integer vectors of any length, what the model returns for
    `<a` / `>a` is accepted by the reference (or the operand class — repeated integers — is
    explicitly not modelled) -/
theorem grade_correct (down : Bool) (a : Val) (keys : List Int) (hk : gradeKeys a = some keys) :
    implGrade down a = .unmodelled ∨
    ∃ r, implGrade down a = .ok (.list (ofNats r)) ∧ IsGrade down keys r := by
  have hsel : IsGrade down keys (if down then gradeDown keys else gradeUp keys) := by
    cases down
    · exact (grade_sorts keys).1
    · exact (grade_sorts keys).2
  cases a with
  | str cs =>
    cases hk
    cases cs with
    | nil => exact .inr ⟨[], rfl, .refl _, .nil⟩
    | cons c cs => exact .inr ⟨_, rfl, hsel⟩
  | list xs =>
    cases xs with
    | nil =>
      cases hk
      exact .inr ⟨[], rfl, .refl _, .nil⟩
    | cons x xs =>
      have hk : asInts (x :: xs) = some keys := hk
      simp only [implGrade, hk]
      exact guard_or.imp_right fun h => ⟨_, h, hsel⟩
  | _ => cases hk

/-- "hello, world": the manual's example, ties ('l', 'o') by position -/
example : (implGrade false (.str [104, 101, 108, 108, 111, 44, 32, 119, 111, 114, 108, 100])).isOk
    (.list (ofNats [6, 5, 11, 1, 0, 2, 3, 10, 4, 8, 9, 7])) = true := by decide
example : (implGrade true (.list [.int 5, .int (-3), .int 2, .int 7])).isOk
    (.list (ofNats [3, 0, 2, 1])) = true := by decide

/-! ## Range -/

theorem refRange_sublist {α} (eq : α → α → Bool) : ∀ xs : List α, (refRange eq xs).Sublist xs
  | [] => .slnil
  | x :: xs => (List.filter_sublist.trans (refRange_sublist eq xs)).cons_cons x

/-- the `set()` loop is the reference's Range whenever equal keys mean Match: the general step,
    with the set built so far (`seen`) -/
theorem pyDedupBy_eq_filter_refRange {α κ} [BEq κ] [LawfulBEq κ] (key : α → κ)
    (eq : α → α → Bool) (xs : List α)
    (h : ∀ x ∈ xs, ∀ y ∈ xs, eq x y = (key x == key y)) (seen : List κ) :
    pyDedupBy key seen xs = (refRange eq xs).filter (fun y => !seen.contains (key y)) := by
  induction xs generalizing seen with
  | nil => rfl
  | cons x xs ih =>
    have hxs : ∀ a ∈ xs, ∀ b ∈ xs, eq a b = (key a == key b) :=
      fun a ha b hb => h a (List.mem_cons_of_mem _ ha) b (List.mem_cons_of_mem _ hb)
    -- on the members of Range the reference's filter `!eq x y` is the key test
    have hf : ∀ p : α → Bool, (refRange eq xs).filter (fun y => p y && !eq x y)
        = (refRange eq xs).filter (fun y => p y && !(key x == key y)) := fun p =>
      List.filter_congr fun y hy => by
        rw [h x List.mem_cons_self y (List.mem_cons_of_mem _ ((refRange_sublist eq xs).subset hy))]
    rw [pyDedupBy, refRange, List.filter_cons, List.filter_filter, hf, ih hxs, ih hxs]
    cases hs : seen.contains (key x)
    · simp [BEq.comm (a := key x), Bool.and_comm]
    · -- `key x` has been seen: whatever it would have removed is removed anyway
      simp only [Bool.not_true, Bool.false_eq_true, if_false, if_true]
      apply List.filter_congr
      intro y _
      by_cases he : key x = key y
      · simp [← he, List.contains_iff_mem.mp hs]
      · simp [he]

theorem pyDedupBy_eq_refRange {α κ} [BEq κ] [LawfulBEq κ] (key : α → κ) (eq : α → α → Bool)
    (xs : List α) (h : ∀ x ∈ xs, ∀ y ∈ xs, eq x y = (key x == key y)) :
    pyDedupBy key [] xs = refRange eq xs := by
  rw [pyDedupBy_eq_filter_refRange key eq xs h]
  simp

theorem pyDedupBy_id {α} [BEq α] [LawfulBEq α] (xs : List α) :
    pyDedupBy id [] xs = refRange (· == ·) xs :=
  pyDedupBy_eq_refRange id (· == ·) xs (fun _ _ _ _ => rfl)

theorem refRange_map {α β} (f : α → β) (eq : α → α → Bool) (eq' : β → β → Bool)
    (h : ∀ a b, eq' (f a) (f b) = eq a b) (l : List α) :
    refRange eq' (l.map f) = (refRange eq l).map f := by
  induction l with
  | nil => rfl
  | cons x xs ih =>
    simp only [List.map_cons, refRange, ih, List.filter_map]
    congr 2
    apply List.filter_congr
    intro y _
    simp [h]

theorem joinChars_chr (cs : List Nat) : joinChars (cs.map .chr) = some cs := by
  induction cs with
  | nil => rfl
  | cons c cs ih => simp [joinChars, ih]

/-- **range_str_correct**: `''.join(dict.fromkeys(a))` is Range on every string -/
theorem range_str_correct (cs : List Nat) :
    refMonad "?" (.str cs) = some (.str (refRange (· == ·) cs)) ∧
    implMonad "?" (.str cs) = .ok (.str (refRange (· == ·) cs)) := by
  constructor
  · rw [refMonad_range_str, strChars, refRange_map Val.chr (· == ·) vmatch vmatch_chr,
      joinChars_chr]
    rfl
  · rw [implMonad_range, implRange, pyDedupBy_id]

theorem any_map_int (p : Val → Bool) (hp : ∀ n, p (.int n) = false) (ns : List Int) :
    (ns.map Val.int).any p = false := by
  simp [hp]

/-- **range_ints_correct**: the `set()`-of-`str(x)` loop over an integer vector of any length is
    the reference's Range (unique elements in order of appearance) -/
theorem range_ints_correct (ns : List Int) :
    refMonad "?" (.list (ns.map .int)) = some (.list ((refRange (· == ·) ns).map .int)) ∧
    implMonad "?" (.list (ns.map .int)) = .ok (.list ((refRange (· == ·) ns).map .int)) := by
  constructor
  · rw [refMonad_range_list, refRange_map Val.int (· == ·) vmatch vmatch_int,
      any_map_int _ (fun _ => rfl)]
    rfl
  cases ns with
  | nil => rfl
  | cons n ns =>
    simp only [implMonad_range, List.map_cons, implRange, asInts, asInts_map, Option.map_some,
      ofInts, pyDedupBy_id]

/-- equal loop keys (`rangeKey`) mean Match, on the members of the operand -/
def strFaithful (xs : List Val) : Bool :=
  xs.all fun x => xs.all fun y => vmatch x y == (rangeKey x == rangeKey y)

/-- **range_obj_correct**: on an object vector (integers, characters, strings, symbols mixed)
    the `set()` loop keyed by `(is_number, is KGSym, is_list, str(x))` is the reference's Range,
    PROVIDED no two members that do not match have the same key.  With the key of /repo at
    69a7d58 the only such pair among the modelled members is a character and the one-character
    string with the same text — lists holding both are outside the reference anyway. -/
theorem range_obj_correct (xs : List Val) (v : Val) (href : refMonad "?" (.list xs) = some v)
    (h1 : asInts xs = none) (h2 : asIntRows xs = none)
    (h3 : xs.all (fun x => (pyStr x).isSome) = true) (hf : strFaithful xs = true) :
    implMonad "?" (.list xs) = .ok v := by
  rw [refMonad_range_list, Option.ite_none_left_eq_some] at href
  cases href.2
  cases xs with
  | nil => cases h1
  | cons x xs =>
    simp only [implMonad_range, implRange, h1, h2, h3, if_true]
    rw [pyDedupBy_eq_refRange rangeKey vmatch (x :: xs)]
    intro a ha b hb
    simp only [strFaithful, List.all_eq_true, beq_iff_eq] at hf
    exact hf a ha b hb

/-- the key is more than the text (/repo at 69a7d58): an integer and its decimal string, a symbol
    and its name print alike but are kept apart — `?[-12 "-12" -12]` is `[-12 "-12"]`,
    `?[:a "a"]` is `[:a "a"]` — and such lists satisfy the hypothesis of `range_obj_correct` -/
theorem range_kinds_kept :
    strFaithful [.int (-12), .str [45, 49, 50], .int (-12)] = true ∧
    (implRange (.list [.int (-12), .str [45, 49, 50], .int (-12)])).isOk
      (.list [.int (-12), .str [45, 49, 50]]) = true ∧
    strFaithful [.sym [97], .str [97]] = true ∧
    (implRange (.list [.sym [97], .str [97]])).isOk (.list [.sym [97], .str [97]]) = true := by
  decide

/-- the excluded class is real: a character and the one-character string with the same text
    have the same key, so the code drops the second — `?["a" 0ca]` is `["a"]`
    (klongpy's own character/string identity; the reference compares them with Match) -/
theorem range_chr_str_collision :
    strFaithful [.str [97], .chr 97] = false ∧
    (implRange (.list [.str [97], .chr 97])).isOk (.list [.str [97]]) = true ∧
    (refRange vmatch [.str [97], .chr 97]).length = 2 := by decide

example : strFaithful [.int 1, .str [97], .sym [98], .chr 120] = true := by decide

/-! ## order of first appearance (shared by Range on matrices and Group) -/

section firstOrder
variable {α : Type} [BEq α] [LawfulBEq α]

theorem getD_idxOf {xs : List α} {a : α} (d : α) (ha : a ∈ xs) : xs.getD (xs.idxOf a) d = a := by
  simp [List.getD_eq_getElem?_getD, List.getElem?_eq_getElem (List.idxOf_lt_length_of_mem ha)]

theorem idxOf_inj {xs : List α} {a b : α} (ha : a ∈ xs) (hb : b ∈ xs)
    (h : xs.idxOf a = xs.idxOf b) : a = b := by
  rw [← getD_idxOf a ha, h, getD_idxOf a hb]

theorem mem_refRange {xs : List α} {y : α} : y ∈ refRange (· == ·) xs ↔ y ∈ xs := by
  induction xs with
  | nil => rfl
  | cons x xs ih =>
    rw [refRange, List.mem_cons, List.mem_cons, List.mem_filter, ih]
    by_cases hxy : x = y <;> simp [hxy]

theorem refRange_idxOf_lt (xs : List α) :
    (refRange (· == ·) xs).Pairwise fun a b => xs.idxOf a < xs.idxOf b := by
  induction xs with
  | nil => exact .nil
  | cons x xs ih =>
    have hne : ∀ y ∈ (refRange (· == ·) xs).filter (fun y => !(x == y)),
        (x :: xs).idxOf y = xs.idxOf y + 1 := by
      intro y hy
      have : (x == y) = false := by simpa using (List.mem_filter.mp hy).2
      rw [List.idxOf_cons, this, cond_false]
    rw [refRange, List.pairwise_cons]
    refine ⟨fun y hy => ?_, (ih.sublist List.filter_sublist).imp_of_mem fun ha hb h => ?_⟩
    · rw [hne y hy, List.idxOf_cons_self]
      omega
    · rw [hne _ ha, hne _ hb]
      omega

theorem refRange_nodup (xs : List α) : (refRange (· == ·) xs).Nodup :=
  (refRange_idxOf_lt xs).imp fun hlt he => by subst he; exact Nat.lt_irrefl _ hlt

theorem eq_refRange_of_perm_sorted (xs W : List α) (hp : W.Perm (refRange (· == ·) xs))
    (hs : W.Pairwise fun a b => xs.idxOf a ≤ xs.idxOf b) : W = refRange (· == ·) xs := by
  refine hp.eq_of_pairwise (fun a b ha hb h1 h2 => ?_) hs ((refRange_idxOf_lt xs).imp Nat.le_of_lt)
  exact idxOf_inj (mem_refRange.mp (hp.subset ha)) (mem_refRange.mp hb)
    (Nat.le_antisymm h1 h2)

end firstOrder

theorem implRangeRows_eq (rows : List (List Int)) :
    implRangeRows rows = refRange (· == ·) rows := by
  -- however `np.unique` orders the rows, the sorted first positions are those of Range
  have hids : isort natLe ((isort rowLe (refRange (· == ·) rows)).map (rows.idxOf ·))
      = (refRange (· == ·) rows).map (rows.idxOf ·) := by
    apply List.Perm.eq_of_pairwise (le := (· ≤ ·)) (fun _ _ _ _ => Nat.le_antisymm)
    · exact (isort_pairwise natLe natLe_total natLe_trans _).imp (by simp [natLe])
    · exact (List.pairwise_map.mpr (refRange_idxOf_lt rows)).imp Nat.le_of_lt
    · exact (isort_perm _ _).trans ((isort_perm _ _).map _)
  simp only [implRangeRows, npUnique, pyDedupBy_id, hids, List.map_map]
  exact (List.map_congr_left fun v hv => getD_idxOf [] (mem_refRange.mp hv)).trans
    (List.map_id _)

theorem asIntRows_map (rows : List (List Int)) :
    asIntRows (rows.map fun r => Val.list (r.map .int)) = some rows := by
  induction rows with
  | nil => rfl
  | cons r rs ih => simp [asIntRows, asInts_map, ih]

/-- **range_rows_correct**: the model's Range of an integer matrix with any number of rows and
    columns is the distinct rows in order of appearance (`refRange` on the rows, compared
    exactly); that `refMonad "?"` of the matrix is this list is not part of the statement -/
theorem range_rows_correct (r : List Int) (rs : List (List Int)) (hr : r ≠ [])
    (hlen : ∀ row ∈ rs, row.length = r.length) :
    implMonad "?" (.list ((r :: rs).map fun r => Val.list (r.map .int)))
      = .ok (.list ((refRange (· == ·) (r :: rs)).map fun r => Val.list (r.map .int))) := by
  have h1 := asIntRows_map (r :: rs)
  simp only [List.map_cons] at h1
  have hpos : 0 < r.length := List.length_pos_iff.mpr hr
  have hall : (r :: rs).all (fun x => x.length == r.length) = true := by simpa using hlen
  simp only [implMonad_range, List.map_cons, implRange, asInts, h1, List.headD_cons, hpos,
    decide_true, hall, Bool.and_self, if_true, implRangeRows_eq, ofInts]

example : (implRange (.list [.list [.int 3, .int 4], .list [.int 1, .int 2], .list [.int 3, .int 4]])).isOk
    (.list [.list [.int 3, .int 4], .list [.int 1, .int 2]]) = true := by decide

/-! ## Group -/

/-- positions of the value `k` in `keys`, ascending: one group of the reference -/
def positions (keys : List Int) (k : Int) : List Nat :=
  (keys.zipIdx.filter fun p => k == p.1).map (·.2)

theorem refGroup_eq_map_positions (keys : List Int) :
    refGroup (· == ·) keys = (refRange (· == ·) keys).map (positions keys) := rfl

theorem range_map_getD {α} (l : List α) (d : α) :
    (List.range l.length).map (fun i => l.getD i d) = l := by
  apply List.ext_getElem
  · simp
  · intro i _ h2
    simp [List.getD_eq_getElem?_getD, List.getElem?_eq_getElem h2]

/-- `np.where(inverse == i)[0]` lists the positions of the i-th unique value -/
theorem npWhereEq_inverse {keys vals : List Int} (hnd : vals.Nodup) (hmem : ∀ k ∈ keys, k ∈ vals)
    {i : Nat} (hi : i < vals.length) :
    npWhereEq (keys.map fun x => vals.idxOf x) i = positions keys (vals.getD i 0) := by
  unfold npWhereEq positions
  rw [List.zipIdx_map, List.filter_map, List.map_map]
  refine congrArg (List.map fun p : Int × Nat => p.2) (List.filter_congr fun p hp => ?_)
  have hv : p.1 ∈ vals := hmem _ (List.mem_of_getElem? (List.mem_zipIdx_iff_getElem?.mp hp))
  show (vals.idxOf p.1 == i) = (vals.getD i 0 == p.1)
  rw [Bool.eq_iff_iff, beq_iff_eq, beq_iff_eq]
  constructor
  · rintro rfl
    exact getD_idxOf 0 hv
  · intro h
    rw [← h]
    simp [List.getD_eq_getElem?_getD, List.getElem?_eq_getElem hi, hnd.idxOf_getElem i hi]

/-- **implGroupKeys_eq**: `np.unique` + `argsort(first)` + `where(inverse == i)` is the
    reference's Group, for every vector length -/
theorem implGroupKeys_eq (keys : List Int) : implGroupKeys keys = refGroup (· == ·) keys := by
  unfold implGroupKeys npUnique
  simp only [pyDedupBy_id]
  generalize hv : isort intLe (refRange (· == ·) keys) = vals
  have hvp : vals.Perm (refRange (· == ·) keys) := hv ▸ isort_perm _ _
  have hmem : ∀ k ∈ keys, k ∈ vals := fun k h => hvp.symm.subset (mem_refRange.mpr h)
  have hnd : vals.Nodup := hvp.nodup_iff.mpr (refRange_nodup keys)
  generalize hf : (vals.map fun v => keys.idxOf v).map (fun (i : Nat) => (i : Int)) = first
  have hop := npArgsort_perm first
  rw [show first.length = vals.length by simp [← hf]] at hop
  have hlt : ∀ i ∈ npArgsort first, i < vals.length := fun i hi => by simpa using hop.subset hi
  -- `np.unique` sorts the values; taking them in the order of their first positions restores the
  -- order of first appearance: a permutation of Range sorted by first position is Range
  have hW : (npArgsort first).map (fun i => vals.getD i 0) = refRange (· == ·) keys := by
    apply eq_refRange_of_perm_sorted
    · have := hop.map (fun i => vals.getD i 0)
      rw [range_map_getD] at this
      exact this.trans hvp
    · rw [List.pairwise_map]
      apply (List.pairwise_map.mp (npArgsort_sorted first)).imp_of_mem
      intro i j hi hj h
      simp only [← hf, List.getD_eq_getElem?_getD, List.getElem?_map,
        List.getElem?_eq_getElem (hlt i hi), List.getElem?_eq_getElem (hlt j hj), Option.map_some,
        Option.getD_some] at h ⊢
      omega
  rw [refGroup_eq_map_positions, ← hW, List.map_map]
  exact List.map_congr_left fun i hi => npWhereEq_inverse hnd hmem (hlt i hi)

theorem refGroup_map {α β} (f : α → β) (eq : α → α → Bool) (eq' : β → β → Bool)
    (h : ∀ a b, eq' (f a) (f b) = eq a b) (l : List α) :
    refGroup eq' (l.map f) = refGroup eq l := by
  simp [refGroup, refRange_map f eq eq' h, List.zipIdx_map, List.filter_map, Function.comp_def, h]

/-- **group_str_correct**: Group of a string of any length is the reference's value -/
theorem group_str_correct (cs : List Nat) :
    implMonad "=" (.str cs) = (match refMonad "=" (.str cs) with | some v => .ok v | none => .err) := by
  rw [refMonad_group_str, strChars, refGroup_map Val.chr (· == ·) vmatch vmatch_chr,
    ← refGroup_map (fun (c : Nat) => (c : Int)) (· == ·) (· == ·) fun a b => by
      rw [Bool.eq_iff_iff, beq_iff_eq, beq_iff_eq]
      exact Int.ofNat_inj]
  cases cs with
  | nil => rfl
  | cons c cs => simp only [implMonad_group, implGroup, implGroupKeys_eq]

/-- **group_ints_correct**: Group of an integer vector of any length is the reference's value -/
theorem group_ints_correct (ns : List Int) :
    refMonad "=" (.list (ns.map .int)) = some (groupsVal (refGroup (· == ·) ns)) ∧
    implMonad "=" (.list (ns.map .int)) = .ok (groupsVal (refGroup (· == ·) ns)) := by
  constructor
  · rw [refMonad_group_list, refGroup_map Val.int (· == ·) vmatch vmatch_int,
      any_map_int _ (fun _ => rfl)]
    rfl
  cases ns with
  | nil => rfl
  | cons n ns =>
    simp only [implMonad_group, List.map_cons, implGroup, asInts, asInts_map, Option.map_some,
      implGroupKeys_eq]

/-! ### what the groups are (the reference's Group, spelled out) -/

theorem mem_positions (keys : List Int) (k : Int) (i : Nat) :
    i ∈ positions keys k ↔ keys[i]? = some k := by
  simp [positions, List.mem_zipIdx_iff_getElem?]

theorem positions_sorted (keys : List Int) (k : Int) : (positions keys k).Pairwise (· < ·) := by
  unfold positions
  have h : (keys.zipIdx.map (·.2)).Pairwise (· < ·) := by
    rw [List.zipIdx_map_snd 0 keys, ← List.range_eq_range']
    exact List.pairwise_lt_range
  exact List.Pairwise.sublist (List.Sublist.map _ List.filter_sublist) h

/-- **group_spec**: the modelled Group, for a vector of any length: (1) the groups partition
    the positions 0..n-1; (2) every group lists, in ascending order, exactly the positions of
    one value; (3) the groups are ordered by the first appearance of their value: there are as
    many as distinct values, these stand in `refRange` by ascending first position, and group
    `j` holds the positions of the `j`-th of them -/
theorem group_spec (keys : List Int) :
    (implGroupKeys keys).flatten.Perm (List.range keys.length) ∧
    (∀ g ∈ implGroupKeys keys, g.Pairwise (· < ·) ∧ ∃ k ∈ keys, ∀ i, i ∈ g ↔ keys[i]? = some k) ∧
    (implGroupKeys keys).length = (refRange (· == ·) keys).length ∧
    ((refRange (· == ·) keys).map (keys.idxOf ·)).Pairwise (· < ·) ∧
    (∀ j (h : j < (refRange (· == ·) keys).length),
      (implGroupKeys keys)[j]? = some (positions keys (refRange (· == ·) keys)[j])) := by
  rw [implGroupKeys_eq, refGroup_eq_map_positions]
  refine ⟨?_, ?_, by simp, List.pairwise_map.mpr (refRange_idxOf_lt keys), ?_⟩
  · rw [List.perm_ext_iff_of_nodup ?_ List.nodup_range]
    · intro i
      simp only [← List.flatMap_def, List.mem_flatMap, mem_positions, mem_refRange, List.mem_range]
      exact ⟨fun ⟨k, _, h⟩ => (List.getElem?_eq_some_iff.mp h).1,
        fun hi => ⟨keys[i], List.getElem_mem hi, List.getElem?_eq_getElem hi⟩⟩
    · show List.Pairwise (· ≠ ·) _
      rw [List.pairwise_flatten, List.pairwise_map]
      constructor
      · intro g hg
        obtain ⟨k, _, rfl⟩ := List.mem_map.mp hg
        exact (positions_sorted keys k).imp Nat.ne_of_lt
      · -- a position has one key, and the keys of Range are distinct
        refine (refRange_nodup keys).imp fun hab i hia j hjb hij => ?_
        subst hij
        rw [mem_positions] at hia hjb
        exact hab (Option.some.inj (hia.symm.trans hjb))
  · intro g hg
    obtain ⟨k, hk, rfl⟩ := List.mem_map.mp hg
    exact ⟨positions_sorted keys k, k, mem_refRange.mp hk, mem_positions keys k⟩
  · intro j h
    simp [List.getElem?_map, List.getElem?_eq_getElem h]

/-- "hello foo": the manual's example -/
example : (implGroup (.str [104, 101, 108, 108, 111, 32, 102, 111, 111])).isOk
    (groupsVal [[0], [1], [2, 3], [4, 7, 8], [5], [6]]) = true := by decide

/-! ## Shape -/

/-- no empty list / empty string anywhere in the operand (the manual calls them atoms; numpy
    gives them a dimension of length 0) -/
def noEmpty : Val → Bool
  | .list [] => false
  | .list (x :: xs) => noEmpty x && go xs
  | .str [] => false
  | _ => true
where
  go : List Val → Bool
    | [] => true
    | y :: ys => noEmpty y && go ys

/-- the reference's "is a sub-array" test on the first member -/
def innerB : Val → Bool
  | .list _ => true
  | .str (_ :: _) => true
  | _ => false

/-- the reference itself calls the list a vector: the members do not all have the shape of an
    array first member -/
def topRagged : Val → Bool
  | .list (x :: xs) => !(innerB x && (refShape.refShapes xs).all (fun t => t == refShape x))
  | _ => false

/-- operands on which `np.asarray(...).shape` / ValueError and the reference agree: no empty
    members, and every level regular or the top level already a vector -/
def shapeClass (a : Val) : Bool := noEmpty a && ((npShapeA a).isSome || topRagged a)

theorem refShapes_length (xs : List Val) : (refShape.refShapes xs).length = xs.length := by
  induction xs with
  | nil => rfl
  | cons x xs ih => simp [refShape.refShapes, ih]

/-- the reference's shape of a non-empty list, with its sub-array test named (`innerB`) -/
theorem refShape_cons (x : Val) (xs : List Val) : refShape (.list (x :: xs)) =
    if innerB x && (refShape.refShapes xs).all (fun t => t == refShape x)
    then (xs.length + 1) :: refShape x else [xs.length + 1] := rfl

mutual
theorem shapeA_ref : (v : Val) → (s : List Nat) → noEmpty v = true → npShapeA v = some s →
    refShape v = s
  | .list [], s, hn, _ => by simp [noEmpty] at hn
  | .list (x :: xs), s, hn, h => by
    simp only [npShapeA] at h
    cases hss : npShapeA.shapes (x :: xs) with
    | none => simp [hss] at h
    | some ss =>
      have e := shapesA_ref (x :: xs) ss hn hss
      rw [hss, ← e] at h
      simp only [refShape.refShapes, Option.ite_none_right_eq_some, Option.some.injEq] at h
      obtain ⟨hall, rfl⟩ := h
      -- a first member that is no sub-array has shape [], so both branches of the reference agree
      rw [refShape_cons, hall, Bool.and_true, refShapes_length]
      cases x with
      | str cs => cases cs <;> rfl
      | _ => rfl
  | .str [], s, hn, _ => by simp [noEmpty] at hn
  | .str (c :: cs), s, _, h => by
    cases h
    rfl
  | .int _, s, _, h | .real _, s, _, h | .chr _, s, _, h | .sym _, s, _, h => by
    cases h
    rfl
  | .dict _, s, _, h | .undef, s, _, h => by cases h
theorem shapesA_ref : (xs : List Val) → (ss : List (List Nat)) → noEmpty.go xs = true →
    npShapeA.shapes xs = some ss → refShape.refShapes xs = ss
  | [], ss, _, h => by
    cases h
    rfl
  | x :: xs, ss, hn, h => by
    simp only [noEmpty.go, Bool.and_eq_true] at hn
    rw [npShapeA.shapes] at h
    split at h
    next sx ss' hx hxs =>
      cases h
      rw [refShape.refShapes, shapeA_ref x sx hn.1 hx, shapesA_ref xs ss' hn.2 hxs]
    next => cases h
end

/-- **shape_correct**: wherever the reference defines Shape and the operand is in `shapeClass`
    (regular nests of ANY rank over numbers / characters / symbols / equal-length strings, and
    lists whose members differ in shape — vectors), `np.asarray(...).shape` with its ValueError
    fallback is the reference's shape; atoms give 0 and strings their length -/
theorem shape_correct (a v : Val) (href : refMonad "^" a = some v) (hc : shapeClass a = true) :
    implMonad "^" a = .unmodelled ∨ implMonad "^" a = .ok v := by
  rw [implMonad_shape]
  cases a with
  | list xs =>
    cases xs with
    | nil => simp [shapeClass, noEmpty] at hc
    | cons x xs =>
      rw [refMonad_shape_cons, Option.ite_none_left_eq_some] at href
      cases href.2
      simp only [shapeClass, Bool.and_eq_true, Bool.or_eq_true] at hc
      unfold implShape
      -- the test `hasOpaque`: a dictionary or :undefined inside is not modelled
      split
      · exact .inl rfl
      · right
        cases hs : npShapeA (.list (x :: xs)) with
        | some s =>
          simp only [hs]
          rw [shapeA_ref _ s hc.1 hs]
        | none =>
          -- `np.asarray` raises: in the class because the reference, too, calls it a vector
          have ht : topRagged (.list (x :: xs)) = true := by simpa [hs] using hc.2
          simp only [topRagged, Bool.not_eq_true'] at ht
          simp [hs, refShape_cons, ht, ofNats]
  | str cs =>
    cases cs with
    | nil => cases href
    | cons c cs =>
      cases href
      exact .inr rfl
  | int n | real n | chr n | sym n =>
    cases href
    exact .inr rfl
  | dict _ | undef => exact .inl rfl

/-- the two empty sequences: the model's Shape is 0, and so is the reference's for `[]` (for `""`
    the reference defines nothing) -/
theorem shape_atom_correct :
    implShape (.list []) = .ok (.int 0) ∧ implShape (.str []) = .ok (.int 0) ∧
    refMonad "^" (.list []) = some (.int 0) := ⟨rfl, rfl, rfl⟩

/-- the excluded class is real.  (1) members of one common `refShape`, one of them ragged
    inside: `^[[[1 2] [[1] [2 3]]] [[1 2] [[1] [2 3]]]]` is [2] in the code, `refShape` says
    [2 2 2].  (2) empty members: `^[["" ""] ["" ""]]` is [2 2 0] in the code, `refShape` says
    [2 2] ("" is an atom).  Both are ambiguous in the manual: `refMonad "^"` leaves them
    undefined (`shapeAmb`, applied at every depth). -/
theorem shape_deviation :
    let r := Val.list [.list [.int 1, .int 2], .list [.list [.int 1], .list [.int 2, .int 3]]]
    let w := Val.list [r, r]
    shapeClass w = false ∧ (implShape w).isOk (.list (ofNats [2])) = true ∧
      refShape w = [2, 2, 2] ∧ shapeAmb w = true ∧
    (let e := Val.list [.list [.str [], .str []], .list [.str [], .str []]]
     shapeClass e = false ∧ (implShape e).isOk (.list (ofNats [2, 2, 0])) = true ∧
       refShape e = [2, 2] ∧ shapeAmb e = true) := by decide

example : shapeClass (.list [.list [.list [.int 1, .int 2], .list [.int 3, .int 4]],
    .list [.list [.int 5, .int 6], .list [.int 7, .int 8]]]) = true := by decide
example : shapeClass (.list [.list [.int 1], .list [.int 2, .int 3]]) = true := by decide
example : shapeClass (.list [.str [97, 98], .str [99, 100]]) = true := by decide
example : (implShape (.list [.str [97, 98], .str [99, 100]])).isOk (.list (ofNats [2, 2])) = true := by
  decide

/-! ## Reshape -/

theorem foldl_mul (ds : List Nat) (k : Nat) : ds.foldl (· * ·) k = k * ds.foldl (· * ·) 1 := by
  induction ds generalizing k with
  | nil => simp
  | cons d ds ih =>
    simp only [List.foldl_cons]
    rw [ih (k * d), ih (1 * d)]
    simp [Nat.mul_assoc]

/-- the `default` that `cyc` falls back on at `Val` is `.undef`: the instance of Model/C01
    (`instance : Inhabited Val := ⟨.undef⟩`), not the one `Val` derives -/
theorem cyc_val (xs : List Val) (i : Nat) : cyc xs i = xs.getD (i % xs.length) .undef := rfl

theorem npReshape_window (xs : List Val) : ∀ (dims : List Nat) (fuel off : Nat),
    dims.length ≤ fuel →
    npReshape dims (window xs off (dims.foldl (· * ·) 1)) = reshapeFill fuel dims xs off
  | [], fuel, off, _ => by cases fuel <;> simp [reshapeFill, npReshape, window, cyc_val]
  | d :: ds, 0, off, h => by simp at h
  | d :: ds, fuel + 1, off, h => by
    simp only [npReshape, reshapeFill]
    congr 1
    apply List.map_congr_left
    intro i hi
    have hi' : i < d := by simpa using hi
    rw [List.foldl_cons, foldl_mul ds (1 * d), Nat.one_mul]
    generalize hst : ds.foldl (· * ·) 1 = stride
    rw [window_drop, window_take]
    have hle : stride ≤ d * stride - i * stride := by
      rw [← Nat.sub_mul]
      exact Nat.le_mul_of_pos_left _ (by omega)
    rw [Nat.min_eq_left hle]
    exact hst ▸ npReshape_window xs ds fuel (off + i * stride) (by simpa using h)

theorem npResizeFlat_eq_window (xs : List Val) (k : Nat) (hb : 0 < xs.length) :
    npResizeFlat xs k = window xs 0 k := by
  rw [npResizeFlat, tile_eq_window, slice_to_of_nonneg (by omega), window_take, Int.toNat_natCast,
    Nat.min_eq_left (ceilDiv_mul_bounds k _ hb).1]

theorem replicate_eq_window (b : Val) (k : Nat) : List.replicate k b = window [b] 0 k := by
  apply List.ext_getElem
  · simp
  · intro i h1 h2
    simp [window, cyc, Nat.mod_one]

theorem reshapeFill_vec (flat : List Val) (m : Nat) :
    reshapeFill 2 [m] flat 0 = .list (window flat 0 m) := by
  simp [reshapeFill, window, cyc_val]

theorem flattenAll_flatSrc : ∀ {xs : List Val},
    flatSrc (.list xs) = true → flattenAll (.list xs) = xs
  | [], _ => rfl
  | x :: xs, h => by
    simp only [flatSrc, List.all_cons, Bool.and_eq_true] at h
    have ih : flattenAll.flattenList xs = xs := flattenAll_flatSrc h.2
    cases x with
    | list _ | str _ => cases h.1
    | _ => simp [flattenAll, flattenAll.flattenList, ih]

theorem implReshape_list {dimsV : List Val} {ds : List Nat} {b : Val}
    (hnl : natList dimsV = some ds) (hs : flatSrc b = true)
    (hne : (flattenAll b).isEmpty = false) :
    implReshape (.list dimsV) b = .unmodelled ∨
    implReshape (.list dimsV) b = .ok (reshapeFill (ds.length + 1) ds (flattenAll b) 0) := by
  simp only [implReshape, asInts_of_natList hnl, toNat_ofNat_map]
  -- the model's guard (no dimensions, a dimension ≤ 0): where it holds the operand is not modelled
  generalize (_ || _ : Bool) = c
  cases c
  case true => exact .inl rfl
  simp only [Bool.false_eq_true, if_false]
  cases b with
  | list xs =>
    rw [flattenAll_flatSrc hs] at hne ⊢
    have hb : 0 < xs.length := List.length_pos_iff.mpr (by simpa using hne)
    by_cases hv : isVecSrc xs = true
    · right
      simp only [hv, Bool.not_true, Bool.false_eq_true, if_false]
      -- every branch reshapes the first `prod ds` elements of the endless repetition of `xs`
      rw [← npReshape_window xs ds (ds.length + 1) 0 (by omega)]
      split
      · rename_i hgt
        rw [if_neg (by omega), tile_append_slice_tile xs _ hb hgt]
      · split
        · rename_i heq
          rw [heq, ← self_eq_window]
        · rw [npResizeFlat_eq_window xs _ hb]
    · left
      simp [hv]
  | int k | real k =>
    right
    simp only [flattenAll]
    rw [replicate_eq_window, npReshape_window _ ds (ds.length + 1) 0 (by omega)]
  | _ => exact .inl rfl

theorem implReshape_int {m : Nat} (hm : 0 < m) {b : Val} (hs : flatSrc b = true)
    (hne : (flattenAll b).isEmpty = false) :
    implReshape (.int m) b = .unmodelled ∨
    implReshape (.int m) b = .ok (.list (window (flattenAll b) 0 m)) := by
  have h1 : ¬ ((m : Int) < 0) := by omega
  have h2 : ¬ ((m : Int) = 0) := by omega
  simp only [implReshape, h1, h2, if_false, Int.toNat_natCast]
  cases b with
  | list xs =>
    rw [flattenAll_flatSrc hs] at hne ⊢
    have hb : 0 < xs.length := List.length_pos_iff.mpr (by simpa using hne)
    by_cases hv : isVecSrc xs = true
    · right
      simp only [hv, Bool.not_true, Bool.false_eq_true, if_false]
      split
      · rw [npResizeFlat_eq_window xs m hb]
      · rename_i hge
        have : ¬ xs.length = 0 := by omega
        simp only [this, if_false]
        rw [tile_div_append_take xs xs m hb
          (fun r hr => by rw [take_eq_window, Nat.min_eq_left (by omega)]) _ (by rw [Nat.mul_comm])]
    · left
      simp [hv]
  | int k | real k =>
    right
    simp only [flattenAll, replicate_eq_window]
  | _ => exact .inl rfl

/-- **reshape_correct**: wherever the reference defines Reshape (a vector or atom source, a
    positive integer or a list of positive dimensions of ANY rank) and the operand is in a
    modelled class, the tile / concatenate / resize / reshape branches of `eval_dyad_reshape`
    produce the reference's cyclic fill -/
theorem reshape_correct (a b v : Val) (h : refDyad ":^" a b = some v) :
    implDyad ":^" a b = .unmodelled ∨ implDyad ":^" a b = .ok v := by
  rw [implDyad_reshape]
  cases a with
  | list dimsV =>
    rw [refDyad_reshape_list] at h
    cases hnl : natList dimsV with
    | none =>
      rw [hnl] at h
      cases h
    | some ds =>
      simp only [hnl, Option.ite_none_left_eq_some, Bool.or_eq_true, not_or, Bool.not_eq_true,
        Bool.not_eq_false'] at h
      -- dimensions given and positive (not needed), a non-empty source, a flat one
      obtain ⟨⟨⟨-, hne⟩, hs⟩, hv⟩ := h
      cases hv
      exact implReshape_list hnl hs hne
  | int n =>
    simp only [refDyad_reshape_int, Option.ite_none_left_eq_some, Bool.or_eq_true, not_or,
      Bool.not_eq_true, Bool.not_eq_false', decide_eq_false_iff_not] at h
    obtain ⟨⟨⟨hn, hne⟩, hs⟩, hv⟩ := h
    cases hv
    obtain ⟨m, rfl⟩ : ∃ m : Nat, n = (m : Int) := ⟨n.toNat, by omega⟩
    rw [Int.toNat_natCast, reshapeFill_vec]
    exact implReshape_int (by omega) hs hne
  | _ => cases h

example : (implReshape (.list [.int 2, .int 2, .int 2]) (.list [.int 1, .int 2, .int 3])).isOk
    (.list [.list [.list [.int 1, .int 2], .list [.int 3, .int 1]],
            .list [.list [.int 2, .int 3], .list [.int 1, .int 2]]]) = true := by decide
example : (implReshape (.int 5) (.list [.int 1, .int 2])).isOk
    (.list [.int 1, .int 2, .int 1, .int 2, .int 1]) = true := by decide
example : (implReshape (.list [.int 2, .int 2]) (.list [.int 1, .int 2, .int 3, .int 4, .int 5])).isOk
    (.list [.list [.int 1, .int 2], .list [.int 3, .int 4]]) = true := by decide
example : (refDyad ":^" (.list [.int 2, .int 2]) (.list [.int 1, .int 2, .int 3])).isSome = true := by
  decide

end Klong.C01.Ext2
