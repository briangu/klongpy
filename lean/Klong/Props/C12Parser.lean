/-
  C12 — the recursive-descent parser.  One invariant per parser function (`Spec`): with fuel
  `need |t| i rank` a function started at `i` returns `ok i'` with `i ≤ i' ≤ |t|+1` (strictly
  advancing where the Python loop relies on it) or an error, after at most `100*(i'-i) + c` units
  of `|t|+2` steps.  `Spec` holds for every fuel by induction, one `step_*` lemma per function
  (three here, the rest in C12Parser2): a walk through the function's body that carries a running
  account of the cost (`At`, `Rest`).
-/
import Klong.Props.C12KgRead
namespace Klong.C12

/-- work bound in units: `Z` without progress, `100*(i'-i) - S` with progress -/
def Bd (S Z i i' q : Nat) : Prop := (i' = i → q ≤ Z) ∧ (i < i' → q + S ≤ 100 * (i' - i))

def EB (n i Ze : Nat) : Nat → Prop := fun q => q ≤ 100 * (n + 1 - i) + Ze

/-- `None` only at the end of the text, a value only after progress -/
def PV (S Z n i : Nat) : Nat → Node → Nat → Prop := fun i' v q =>
  i ≤ i' ∧ i' ≤ n + 1 ∧ (v.isNone = true → n ≤ i') ∧ (v.isNone = false → i < i') ∧ Bd S Z i i' q

/-- a proper value, advancing or not -/
def PN (S Z n i : Nat) : Nat → Node → Nat → Prop := fun i' v q =>
  i ≤ i' ∧ i' ≤ n + 1 ∧ v.isNone = false ∧ Bd S Z i i' q

/-- a proper value, advancing -/
def PA (n i : Nat) : Nat → Node → Nat → Prop := fun i' v q =>
  i < i' ∧ i' ≤ n + 1 ∧ v.isNone = false ∧ q ≤ 100 * (i' - i)

/-- a list, advancing or not -/
def PL (S Z n i : Nat) : Nat → List Node → Nat → Prop := fun i' _ q =>
  i ≤ i' ∧ i' ≤ n + 1 ∧ Bd S Z i i' q

/-- a list, advancing -/
def PLA (n i : Nat) : Nat → List Node → Nat → Prop := fun i' _ q =>
  i < i' ∧ i' ≤ n + 1 ∧ q ≤ 100 * (i' - i)

theorem PV.lt {S Z n i j q : Nat} {v : Node} (h : PV S Z n i j v q) (hi : i < n) : i < j := by
  obtain ⟨-, -, hn, hs, -⟩ := h
  cases hv : v.isNone
  · exact hs hv
  · exact Nat.lt_of_lt_of_le hi (hn hv)

/-- a look-ahead costs at most 8 units -/
theorem kgRead_units (cfg : Cfg) (t : Text) (fuel i : Nat) (rn ign : Bool) (m : PState)
    (hi : i ≤ t.length + 1) (hf : need t.length i 1 ≤ fuel) :
    SatW (t.length + 2) (KU t.length i 8) (EB t.length i 8) (kgRead cfg t fuel i rn ign m) := by
  refine (kgRead_sat cfg t fuel i rn ign m hi hf).elim (fun _ _ _ st q h1 ⟨g1, g2, gn, gs, gq⟩ => ?_)
    fun _ _ st q h1 h2 => ?_
  · exact ⟨8, by omega, g1, g2, gn, gs, Nat.le_refl 8⟩
  · exact ⟨8, by omega, Nat.le_add_left 8 _⟩

theorem kgReadArray_units (cfg : Cfg) (t : Text) (fuel i : Nat) (ign : Bool) (m : PState)
    (hi : i ≤ t.length + 1) (hf : need t.length i 1 ≤ fuel) :
    SatW (t.length + 2) (KU t.length i 8) (EB t.length i 8) (kgReadArray cfg t fuel i ign m) := by
  have h := kgRead_units cfg t fuel i false ign m hi hf
  unfold kgReadArray
  split
  · rename_i i' xs m' st heq
    rw [heq] at h
    exact h
  · exact h

theorem isOpOrSym_isNone {a : Node} (h : a.isOpOrSym = true) : a.isNone = false := by
  cases a <;> simp_all [Node.isOpOrSym, Node.isNone]

theorem isStr_isNone {a : Node} {s : List Char} (h : a.isStr s = true) : a.isNone = false := by
  cases a <;> simp_all [Node.isStr, Node.isNone]

theorem isSym_isNone {a : Node} (h : a.isSym = true) : a.isNone = false := by
  cases a <;> simp_all [Node.isSym, Node.isNone]

theorem isMonad_isNone {cfg : Cfg} {a : Node} (h : a.isMonad cfg = true) : a.isNone = false := by
  cases a <;> simp_all [Node.isMonad, Node.isNone]

theorem argsAhead_lt {t : Text} {i : Nat} (h : argsAhead t i = true) : i < t.length := by
  simp only [argsAhead, Bool.or_eq_true] at h
  rcases h with h | h
  · exact cmatch_lt h
  · have := cmatch2_lt h
    omega

/-- The invariant of every parser function for a given amount of fuel.  Per function: rank `r` (the
    fuel is `need |t| i r`), post-condition with the margins `S Z` of `Bd`, constant `Ze` of the
    error bound `EB`:

      factor        2  PV 24  9   20        readFn         6  PA        50
      expr          3  PV 12 10   20        readFnArgs     5  PLA       40
      exprLoop      4  PN  0  1   20        fnArgsLoop     4  PLA       30
      applyAdverbs  4  PN  0 11   30        readCond       4  PA        30
      progLoop      4  PL  1  1   30        readExprArray  5  PL  0  2  40
      prog          5  PL  0  2   40        exprArrayLoop  4  PL  1  1  30

    (`kgRead` below them: rank 1, 8 units either way, `kgRead_units`.)  Four rules fix the numbers
    from the leaves up; they are the side conditions the steps discharge by `decide`:
    * rank (`At.call`): a callee that runs before the caller has read a character has a lower rank:
      `readFn` 6 > `prog` 5 > `progLoop` 4 > `expr` 3 > `factor` 2 > `kgRead` 1; `readFnArgs`,
      `readExprArray` 5 > their loops 4 > `expr`; `readCond`, `applyAdverbs` 4 > `expr`.  After a
      character any rank up to `r + 7` is allowed: `factor` calls `readFn` so, and `exprLoop`
      (entered, and calling, only after progress) could have any rank.
    * `Z`, the cost of a run that reads nothing: 1 per call or round, 8 per look-ahead, the callee's
      `Z` (`Bd.run`, `Bd.shift`): `factor` 8 + 1, `expr` 9 + 1, `applyAdverbs` 10 + 1, `prog` and
      `readExprArray` 1 + 1.
    * `S`, what a run that advanced leaves of the 100 units per character: what its callee left
      less what is spent after it (`d + S0 < 0` in `At.pl` … `At.pa`, `c + S0 ≤ S` in `Bd.shift`).
      `expr` keeps 12 of `factor`'s 24 (look-ahead 8, one tick, `exprLoop`'s 1); `progLoop` keeps 1
      of these 12 (look-ahead 8, one tick, the next round's 1): `prog`'s tick.
    * `Ze` (`At.eb`, `rest_err`): the callee's `Ze'`, or the `k` units of an error of its own, plus
      the balance `d` at that point.  Before a character is read `d ≥ 0`, so `Ze` grows along the
      chains of the first rule (8, 20, 20, 30, 40, 50; `fnArgsLoop` calls `expr` with the look-ahead
      owed: 8 + 20 ≤ 30); once the function itself has read one (`At.adv`: -100) every callee fits.
    100 is a round number with room to spare: a character pays for the dearest stretch between two
    advances and the margin kept (`factor`: look-ahead 8, an adverb's operand 11, `S` 24), and
    `Bd.flat`, `Bd.shift` ask `S + Z + c ≤ 100` (at most 33). -/
structure Spec (cfg : Cfg) (t : Text) (fuel : Nat) : Prop where
  prog : ∀ i ign m, i ≤ t.length + 1 → need t.length i 5 ≤ fuel →
    SatW (t.length + 2) (PL 0 2 t.length i) (EB t.length i 40) (prog cfg t fuel i ign m)
  progLoop : ∀ i ign acc m, i ≤ t.length + 1 → need t.length i 4 ≤ fuel →
    SatW (t.length + 2) (PL 1 1 t.length i) (EB t.length i 30) (progLoop cfg t fuel i ign acc m)
  expr : ∀ i ign m, i ≤ t.length + 1 → need t.length i 3 ≤ fuel →
    SatW (t.length + 2) (PV 12 10 t.length i) (EB t.length i 20) (expr cfg t fuel i ign m)
  exprLoop : ∀ i a ii aa ign m, i ≤ ii → ii ≤ t.length + 1 → a.isNone = false → (aa.isNone = false → i < ii) →
    need t.length i 4 ≤ fuel →
    SatW (t.length + 2) (PN 0 1 t.length i) (EB t.length i 20) (exprLoop cfg t fuel i a ii aa ign m)
  readFn : ∀ i m, i ≤ t.length + 1 → need t.length i 6 ≤ fuel →
    SatW (t.length + 2) (PA t.length i) (EB t.length i 50) (readFn cfg t fuel i m)
  applyAdverbs : ∀ i a aa ar dy dv m, i ≤ t.length + 1 → need t.length i 4 ≤ fuel →
    SatW (t.length + 2) (PN 0 11 t.length i) (EB t.length i 30) (applyAdverbs cfg t fuel i a aa ar dy dv m)
  readFnArgs : ∀ i m, i ≤ t.length + 1 → need t.length i 5 ≤ fuel →
    SatW (t.length + 2) (PLA t.length i) (EB t.length i 40) (readFnArgs cfg t fuel i m)
  fnArgsLoop : ∀ i k acc m, i ≤ t.length + 1 → need t.length i 4 ≤ fuel →
    SatW (t.length + 2) (PLA t.length i) (EB t.length i 30) (fnArgsLoop cfg t fuel i k acc m)
  readCond : ∀ i m, i ≤ t.length + 1 → need t.length i 4 ≤ fuel →
    SatW (t.length + 2) (PA t.length i) (EB t.length i 30) (readCond cfg t fuel i m)
  readExprArray : ∀ i m, i ≤ t.length + 1 → need t.length i 5 ≤ fuel →
    SatW (t.length + 2) (PL 0 2 t.length i) (EB t.length i 40) (readExprArray cfg t fuel i m)
  exprArrayLoop : ∀ i acc m, i ≤ t.length + 1 → need t.length i 4 ≤ fuel →
    SatW (t.length + 2) (PL 1 1 t.length i) (EB t.length i 30) (exprArrayLoop cfg t fuel i acc m)
  factor : ∀ i ign m, i ≤ t.length + 1 → need t.length i 2 ≤ fuel →
    SatW (t.length + 2) (PV 24 9 t.length i) (EB t.length i 20) (factor cfg t fuel i ign m)

theorem spec_zero (cfg : Cfg) (t : Text) : Spec cfg t 0 := by
  constructor <;> (intros; simp only [need] at *; omega)

/-! ### the running account

  What a step proof knows of the cost so far is one hypothesis `At n i j c d`: the function started at `i` has
  come to `j`, and the `c` units spent satisfy `c + 100*i ≤ 100*j + d`: every character between `i` and `j` pays
  for 100 units; `d : Int` is the balance beyond that, owed if positive, saved if negative.  As `c ≥ 0`, a
  negative balance proves progress (`At.lt`), which a loop needs to go round again and which allows a callee of
  any rank (`At.call`).

  The account moves by `trans` (a callee ran: its post-condition, read as an account from `j` by the `run`
  lemmas, is added), `tick` (units spent on the spot), `to` (the index moved on for nothing), `adv` (it moved on
  by at least one character: 100 saved).  `At.pl` … `At.pa` close it: they give the post-conditions of `Spec`
  once the balance is negative enough; `Bd.flat`, `Bd.shift` serve where progress is not known.  In a step the
  balance is a sum of literals, so `decide` proves the side conditions `hd` as default arguments. -/

structure At (n i j c : Nat) (d : Int) : Prop where
  le : i ≤ j
  inside : j ≤ n + 1
  paid : (c : Int) + 100 * i ≤ 100 * j + d

section
variable {α β : Type} {n i j k c q S Z S0 Z0 Ze Ze' st : Nat} {d d' d0 : Int} {v : Node} {vs : List Node}

theorem At.trans (h : At n i j c d) (h' : At n j k q d') : At n i k (q + c) (d + d') := by
  obtain ⟨h1, -, h3⟩ := h
  obtain ⟨g1, g2, g3⟩ := h'
  exact ⟨Nat.le_trans h1 g1, g2, by omega⟩

theorem At.tick (h : At n i j c d) (k : Nat) : At n i j (c + k) (d + k) := by
  obtain ⟨h1, h2, h3⟩ := h
  exact ⟨h1, h2, by omega⟩

/-- `hk` is a conjunction because that is how `skip_le` hands it over -/
theorem At.to (h : At n i j c d) (hk : j ≤ k ∧ k ≤ n + 1) : At n i k c d := by
  obtain ⟨h1, -, h3⟩ := h
  exact ⟨Nat.le_trans h1 hk.1, hk.2, by omega⟩

theorem At.adv (h : At n i j c d) (hjk : j < k) (hk : k ≤ n + 1) : At n i k c (d - 100) := by
  obtain ⟨h1, -, h3⟩ := h
  exact ⟨by omega, hk, by omega⟩

theorem At.lt (h : At n i j c d) (hd : d < 0 := by decide) : i < j := by
  have := h.paid
  omega

theorem At.weaken (h : At n i j c d) (hd : d ≤ d0 := by decide) : At n i j c d0 := by
  obtain ⟨h1, h2, h3⟩ := h
  exact ⟨h1, h2, by omega⟩

theorem Bd.run (h : Bd S Z i j q) (hi : i ≤ j) (hj : j ≤ n + 1) : At n i j q Z := by
  refine ⟨hi, hj, ?_⟩
  rcases Nat.eq_or_lt_of_le hi with e | l
  · have := h.1 e.symm
    omega
  · have := h.2 l
    omega

theorem PV.run (h : PV S Z n i j v q) : At n i j q Z := h.2.2.2.2.run h.1 h.2.1

theorem PN.run (h : PN S Z n i j v q) : At n i j q Z := h.2.2.2.run h.1 h.2.1

theorem PL.run (h : PL S Z n i j vs q) : At n i j q Z := h.2.2.run h.1 h.2.1

theorem PA.run (h : PA n i j v q) : At n i j q 0 := by
  obtain ⟨h1, h2, -, h3⟩ := h
  exact ⟨Nat.le_of_lt h1, h2, by omega⟩

theorem PLA.run (h : PLA n i j vs q) : At n i j q 0 := by
  obtain ⟨h1, h2, h3⟩ := h
  exact ⟨Nat.le_of_lt h1, h2, by omega⟩

theorem PV.run_lt (h : PV S Z n i j v q) (hlt : i < j) : At n i j q (-S) := by
  have := h.2.2.2.2.2 hlt
  exact ⟨h.1, h.2.1, by omega⟩

/-- a look-ahead is paid for where it started -/
theorem KU.look (h : KU n i 8 j v q) : At n i i q 8 := by
  obtain ⟨h1, h2, -, -, h3⟩ := h
  exact ⟨Nat.le_refl i, Nat.le_trans h1 h2, by omega⟩

theorem At.bd (h : At n i j c d) (hd : d + S0 < 0) : Bd S0 Z0 i j c := by
  obtain ⟨-, -, h3⟩ := h
  exact ⟨fun _ => by omega, fun _ => by omega⟩

theorem At.pl (h : At n i j c d) (hd : d + S0 < 0 := by decide) : PL S0 Z0 n i j vs c :=
  ⟨h.le, h.inside, h.bd hd⟩

theorem At.pn (h : At n i j c d) (hv : v.isNone = false) (hd : d + S0 < 0 := by decide) : PN S0 Z0 n i j v c :=
  ⟨h.le, h.inside, hv, h.bd hd⟩

theorem At.pv (h : At n i j c d) (hn : v.isNone = true → n ≤ j) (hd : d + S0 < 0 := by decide) :
    PV S0 Z0 n i j v c :=
  ⟨h.le, h.inside, hn, fun _ => h.lt (by omega), h.bd hd⟩

theorem At.pv_some (h : At n i j c d) (hv : v.isNone = false) (hd : d + S0 < 0 := by decide) : PV S0 Z0 n i j v c :=
  h.pv (fun e => Bool.noConfusion (hv.symm.trans e)) hd

theorem At.pla (h : At n i j c d) (hd : d < 0 := by decide) : PLA n i j vs c := by
  obtain ⟨-, h2, h3⟩ := h
  exact ⟨by omega, h2, by omega⟩

theorem At.pa (h : At n i j c d) (hv : v.isNone = false) (hd : d < 0 := by decide) : PA n i j v c := by
  obtain ⟨-, h2, h3⟩ := h
  exact ⟨by omega, h2, hv, by omega⟩

theorem Bd.flat (h : q ≤ Z) (hS : Z + S ≤ 100 := by decide) : Bd S Z i j q :=
  ⟨fun _ => h, fun _ => by omega⟩

/-- a callee run at `j ≥ i`, reached for nothing, and `c` more units; `hc` is for when the callee
    read nothing and `j` is past `i` all the same -/
theorem Bd.shift (h : Bd S Z j k q) (hij : i ≤ j) (hjk : j ≤ k) (hZ : c + Z ≤ Z0 := by decide)
    (hS : c + S0 ≤ S := by decide) (hc : S0 + Z + c ≤ 100 := by decide) : Bd S0 Z0 i k (q + c) := by
  obtain ⟨h1, h2⟩ := h
  rcases Nat.eq_or_lt_of_le hjk with e | l
  · have := h1 e.symm
    exact ⟨fun _ => by omega, fun _ => by omega⟩
  · have := h2 l
    exact ⟨fun _ => by omega, fun _ => by omega⟩

/-! ### rules for the steps

  `Rest n i Ze P c r`: of a function started at `i`, with post-condition `P` and error bound `EB n i Ze`, `c`
  units are spent and `r` remains to be run; `r` satisfies both with `c` units more.  `rest_start` enters with
  `c = 0`; then one rule per way the model goes on (`ok`, `err`, `if`, `cexpect`, `bind`, a tail call as it is
  (`rest_call`) or under `addSteps` (`rest_tail`), `onAdverb`, `readSysComment`).  A rule applied at `j` takes
  the account `At n i j c d` of that place: an error there, within `EB n j Ze'` by itself, is within
  `EB n i Ze` if `d + Ze' ≤ Ze` (`At.eb`). -/

def Rest (n i Ze : Nat) (P : Nat → α → Nat → Prop) (c : Nat) (r : Res α) : Prop :=
  SatW (n + 2) (fun i' v q => P i' v (q + c)) (fun q => EB n i Ze (q + c)) r

variable {P : Nat → α → Nat → Prop} {r : Res α} {m : PState}

theorem rest_start (hi : i ≤ n + 1) (h : At n i i 0 0 → Rest n i Ze P 0 r) : SatW (n + 2) P (EB n i Ze) r :=
  h ⟨Nat.le_refl i, hi, by omega⟩

theorem At.eb (h : At n i j c d) (hq : EB n j Ze' q) (hd : d + Ze' ≤ Ze) : EB n i Ze (q + c) := by
  obtain ⟨h1, h2, h3⟩ := h
  unfold EB at *
  omega

theorem rest_ok {v : α} (k : Nat) (hk : st ≤ k * (n + 2)) (h : P j v (c + k)) : Rest n i Ze P c (.ok j v m st) :=
  ⟨k, hk, (Nat.add_comm c k ▸ h : P j v (k + c))⟩

theorem rest_err {e : Err} (k : Nat) (hk : st ≤ k * (n + 2)) (hc : At n i j c d)
    (hd : d + k ≤ Ze := by decide) : Rest n i Ze P c (.err e m st) :=
  ⟨k, hk, hc.eb (Nat.le_add_left k _) hd⟩

theorem rest_ite {p : Prop} [Decidable p] {a b : Res α}
    (ha : p → Rest n i Ze P c a) (hb : ¬p → Rest n i Ze P c b) :
    Rest n i Ze P c (if p then a else b) := by
  split
  · exact ha ‹p›
  · exact hb ‹¬p›

theorem one_unit : 1 ≤ 1 * (n + 2) := by omega

theorem rest_expect {t : Text} {ch : Char} {f : Nat → Res α} (hc : At t.length i j c d)
    (hf : At t.length i (j + 1) c (d - 100) → Rest t.length i Ze P c (f (j + 1)))
    (hd : d + 1 ≤ Ze := by decide) : Rest t.length i Ze P c (cexpect t j ch m f) :=
  rest_ite (fun h => hf (hc.adv (Nat.lt_succ_self j) (Nat.succ_le_succ (Nat.le_of_lt (cmatch_lt h)))))
    (fun _ => rest_err 1 one_unit hc hd)

theorem rest_bind {P1 : Nat → β → Nat → Prop} {r : Res β} {f : Nat → β → PState → Res α}
    (h : SatW (n + 2) P1 (EB n j Ze') r) (hc : At n i j c d)
    (hf : ∀ j' v m q, P1 j' v q → Rest n i Ze P (q + c) (f j' v m))
    (hd : d + Ze' ≤ Ze := by decide) : Rest n i Ze P c (r.bind f) := by
  refine satW_bind h (fun _ hq => hc.eb hq hd) fun j' v m q h1 => ?_
  simp only [Nat.add_assoc]
  exact hf j' v m q h1

theorem rest_call {P1 : Nat → α → Nat → Prop} (h : SatW (n + 2) P1 (EB n j Ze') r) (hc : At n i j c d)
    (hP : ∀ j' v q, P1 j' v q → P j' v (q + c)) (hd : d + Ze' ≤ Ze := by decide) : Rest n i Ze P c r :=
  satW_mono h hP (fun _ hq => hc.eb hq hd)

theorem rest_tail {P1 : Nat → α → Nat → Prop} {s : Nat} (k : Nat) (hk : s ≤ k * (n + 2))
    (h : SatW (n + 2) P1 (EB n j Ze') r) (hc : At n i j c d) (hP : ∀ j' v q, P1 j' v q → P j' v (q + (c + k)))
    (hd : d + k + Ze' ≤ Ze := by decide) : Rest n i Ze P c (r.addSteps s) := by
  refine satW_addSteps k hk (satW_mono h (fun j' v q h1 => ?_) fun _ hq => ?_)
  · rw [Nat.add_assoc, Nat.add_comm k c]
    exact hP j' v q h1
  · rw [Nat.add_assoc, Nat.add_comm k c]
    exact (hc.tick k).eb hq hd

theorem rest_onAdverb {t : Text} {yes : Nat → List Char → Res α} {no : Unit → Res α}
    (hy : ∀ j' adv, j < j' ∧ j' ≤ t.length + 1 → Rest n i Ze P c (yes j' adv))
    (hn : Rest n i Ze P c (no ())) : Rest n i Ze P c (onAdverb t j yes no) := by
  unfold onAdverb
  have hb := peekAdverb_bounds t j
  split
  · rename_i j' adv heq
    rw [heq] at hb
    have := hb.2 (by simp)
    exact hy j' adv ⟨this.1, Nat.le_succ_of_le this.2⟩
  · exact hn

theorem rest_readSysComment {cfg : Cfg} (hg : cfg.guardEmptyMarker = true) {t : Text} {a : List Char}
    {f : Nat → Nat → Res α} (hc : At t.length i j c d)
    (hf : ∀ j' s, j ≤ j' ∧ j' ≤ t.length + 1 → s ≤ 2 * (t.length + 2) → Rest t.length i Ze P c (f j' s))
    (hd : d + 1 ≤ Ze := by decide) : Rest t.length i Ze P c (readSysComment cfg t j a m f) := by
  -- `s`: the model counts `|t| - j + 1` steps for the search and one per round of the loop
  unfold readSysComment
  split
  · exact rest_err 1 (by omega) hc hd
  · rename_i j0 hf0
    obtain ⟨j1, hj, h1, h2, h3⟩ := commentLoop_ends hg hf0
    have := hc.inside
    rw [hj]
    exact hf _ _ (by omega) (by omega)

/-- The termination argument of the parser is `hs`: the callee, at `j` with one unit of fuel less,
    has a lower rank (`s < r`; the index may stand still), or a character has been read since `i`
    (`d < 0`, `At.lt`), which frees 8 units and pays for any rank up to `r + 7`; the ranks of
    `Spec` lie between 1 and 6.  In a step `r`, `s`, `d` are literals and `decide` checks it.  `h`
    is the callee's field of `Spec` applied to all but its two side conditions
    (`hc.call hf (ih.expr i ign m)`), hence the shape. -/
theorem At.call {X : Prop} {r s fuel : Nat} (hc : At n i j c d) (hf : need n i r ≤ fuel + 1)
    (h : j ≤ n + 1 → need n j s ≤ fuel → X)
    (hs : s < r ∨ d < 0 ∧ s ≤ r + 7 := by decide) : X := by
  obtain ⟨h1, h2, h3⟩ := hc
  refine h h2 ?_
  unfold need at *
  omega

end

/-- skipping blanks and comments is one unit of work -/
theorem skip_units (cfg : Cfg) {t : Text} {i : Nat} (ign : Bool) (hi : i ≤ t.length + 1) :
    skip cfg t i ign - i + 1 ≤ 1 * (t.length + 2) := by
  have := skip_le cfg ign hi
  omega

/-! ### one step of fuel, function by function -/

theorem step_prog {cfg : Cfg} {t : Text} {fuel : Nat} (ih : Spec cfg t fuel) :
    ∀ i ign m, i ≤ t.length + 1 → need t.length i 5 ≤ fuel + 1 →
    SatW (t.length + 2) (PL 0 2 t.length i) (EB t.length i 40) (prog cfg t (fuel + 1) i ign m) := by
  intro i ign m hi hf
  refine rest_start hi fun hc => rest_tail 1 one_unit (hc.call hf (ih.progLoop i ign [] m)) hc ?_
  rintro j v q ⟨h1, h2, hb⟩
  exact ⟨h1, h2, hb.shift hc.le h1⟩

theorem step_progLoop {cfg : Cfg} {t : Text} {fuel : Nat} (ih : Spec cfg t fuel) :
    ∀ i ign acc m, i ≤ t.length + 1 → need t.length i 4 ≤ fuel + 1 →
    SatW (t.length + 2) (PL 1 1 t.length i) (EB t.length i 30) (progLoop cfg t (fuel + 1) i ign acc m) := by
  intro i ign acc m hi hf
  -- inside the text (`hlt`) an expression is read, else the loop ends
  refine rest_start hi fun hc => rest_ite (fun hlt => ?_)
    fun _ => rest_ok 1 one_unit ⟨hc.le, hi, .flat (Nat.le_refl 1)⟩
  refine rest_bind (hc.call hf (ih.expr i ign m)) hc fun i1 v m1 q1 hv => ?_
  have hlt1 := hv.lt hlt
  replace hc := hc.trans (hv.run_lt hlt1)
  -- `None` or `;`: the next round; a value: the look-ahead decides
  refine rest_ite (fun _ => ?_) fun _ => ?_
  · rw [if_pos hlt1]
    exact rest_tail 1 one_unit (hc.call hf (ih.progLoop i1 ign acc m1)) hc
      fun _ _ _ h => ((hc.tick 1).trans h.run).pl
  · refine rest_bind (hc.call hf (kgRead_units cfg t fuel i1 false ign m1)) hc ?_
    rintro ii c m2 q2 hk
    replace hc := hc.trans hk.look
    obtain ⟨k1, k2, -, ks, -⟩ := hk
    -- anything but `;` after the value ends the program; `;` is a token, so `ii` is past `i1`
    refine rest_ite (fun _ => rest_ok 1 one_unit (hc.tick 1).pl) fun hsemi => ?_
    have hii := ks (isStr_isNone (s := [';']) (by simpa using hsemi))
    rw [if_pos (Nat.lt_trans hlt1 hii)]
    replace hc := hc.to ⟨k1, k2⟩
    exact rest_tail 1 one_unit (hc.call hf (ih.progLoop ii ign (v :: acc) m2)) hc
      fun _ _ _ h => ((hc.tick 1).trans h.run).pl

theorem step_expr {cfg : Cfg} {t : Text} {fuel : Nat} (ih : Spec cfg t fuel) :
    ∀ i ign m, i ≤ t.length + 1 → need t.length i 3 ≤ fuel + 1 →
    SatW (t.length + 2) (PV 12 10 t.length i) (EB t.length i 20) (expr cfg t (fuel + 1) i ign m) := by
  intro i ign m hi hf
  refine rest_start hi fun hc => rest_bind (hc.call hf (ih.factor i ign m)) hc ?_
  rintro i1 a m1 q1 hv
  -- `None` or `;` is handed on; a value (`hn`) is followed by the look-ahead and the loop
  refine rest_ite (fun _ => rest_ok 1 one_unit ?_) fun hn => ?_
  · obtain ⟨h1, h2, hn, hs, hb⟩ := hv
    exact ⟨h1, h2, hn, hs, hb.shift hc.le h1⟩
  · simp only [Bool.or_eq_true, not_or, Bool.not_eq_true] at hn
    have hlt1 := hv.2.2.2.1 hn.1
    replace hc := hc.trans (hv.run_lt hlt1)
    refine rest_bind (hc.call hf (kgRead_units cfg t fuel i1 false ign m1)) hc ?_
    rintro ii aa m2 q2 hk
    replace hc := hc.trans hk.look
    obtain ⟨k1, k2, -, ks, -⟩ := hk
    refine rest_tail 1 one_unit (hc.call hf fun _ => ih.exprLoop i1 a ii aa ign m2 k1 k2 hn.1 ks) hc ?_
    intro j v q h
    exact ((hc.tick 1).trans h.run).pv_some h.2.2.1

end Klong.C12
