/-
  C04 — evaluation depends only on program text and variable state; values are immutable.

  The heap machine `Interp` (cells, views, three caches) is simulated by the by-value, cache-free
  machine `Ref`. Two facts about every transition carry the proof.
  * `Grows`: the heap is only appended to, and the evaluator adds nothing to the compiled cache. It
    needs `amendInPlace = false` and nothing else, so it holds of the pinned tree too.
  * `Agree`: from a state with `Inv` (bindings and stored trees refer to allocated cells, every memo
    entry is the compilation of its node) the two machines end in results and states related by the
    abstraction `absRes` / `absS`. It needs `Cfg.Good`.
  Both evaluators spell sequencing with the same `match`, and each fact has one lemma about that `match`.
  `SInv` adds the parse cache and the compiled cache at the statement level. Under these invariants
  every cache is transparent: it hands out what would be computed now, so only `compileNow` and
  `runCode` have to be related to `Ref`.
-/
import Klong.Model.C04
import Klong.Props.Assoc
namespace Klong.C04
open Interp

/-! ## frames: `lookup` and `assign` commute with a map over the bound values, hence keep every
    predicate on them -/

section frames
variable {β γ : Type} {P Q : β → Prop} {fs : List (Frame β)} {bs : List (QName × β)}

def AllVals (P : β → Prop) (fs : List (Frame β)) : Prop := ∀ f ∈ fs, ∀ p ∈ f.binds, P p.2

theorem AllVals.mono (h : ∀ v, P v → Q v) (hv : AllVals P fs) : AllVals Q fs :=
  fun f hf p hp => h _ (hv f hf p hp)

@[simp] theorem AllVals.nil : AllVals P [] := fun _ h => nomatch h

@[simp] theorem AllVals.cons {f : Frame β} :
    AllVals P (f :: fs) ↔ (∀ p ∈ f.binds, P p.2) ∧ AllVals P fs :=
  List.forall_mem_cons

theorem AllVals.tail (hv : AllVals P fs) : AllVals P fs.tail :=
  fun f hf => hv f (List.mem_of_mem_tail hf)

theorem mapFrames_congr {g g' : β → γ} (h : AllVals (fun v => g v = g' v) fs) :
    mapFrames g fs = mapFrames g' fs := by
  refine List.map_congr_left fun f hf => ?_
  have hb : f.binds.map (fun p => (p.1, g p.2)) = f.binds.map (fun p => (p.1, g' p.2)) :=
    List.map_congr_left fun p hp => congrArg (Prod.mk p.1) (h f hf p hp)
  rw [hb]

variable (g : β → γ)

/-! None of these functions looks at a bound value: along the recursion of each (`fun_induction`) the
    tests on the names come out the same on both sides. -/

theorem bindGet_map (k : QName) : bindGet (bs.map (fun p => (p.1, g p.2))) k = (bindGet bs k).map g := by
  fun_induction bindGet bs k <;> simp_all [bindGet]

theorem firstQualified_map (k : Nat) :
    firstQualified k (bs.map (fun p => (p.1, g p.2))) = (firstQualified k bs).map g := by
  fun_induction firstQualified k bs <;> simp_all [firstQualified]

theorem bindSet_map (k : QName) (v : β) :
    bindSet (bs.map (fun p => (p.1, g p.2))) k (g v) = (bindSet bs k v).map (fun p => (p.1, g p.2)) := by
  fun_induction bindSet bs k v <;> simp_all [bindSet]

theorem lookup_map (k : QName) : lookup (mapFrames g fs) k = (lookup fs k).map g := by
  fun_induction lookup fs k <;> simp_all [lookup, mapFrames, bindGet_map, firstQualified_map]

theorem assignExisting_map (k : QName) (v : β) :
    assignExisting (mapFrames g fs) k (g v) = (assignExisting fs k v).map (mapFrames g) := by
  fun_induction assignExisting fs k v <;>
    simp_all [assignExisting, mapFrames, bindGet_map, bindSet_map, Function.comp_def]

theorem assign_map (k : QName) (v : β) : assign (mapFrames g fs) k (g v) = mapFrames g (assign fs k v) := by
  unfold assign
  rw [assignExisting_map]
  cases assignExisting fs k v <;> cases fs <;> simp [mapFrames]

theorem mapFrames_tail : mapFrames g fs.tail = (mapFrames g fs).tail := by cases fs <;> rfl

/-- frames whose values satisfy `P` are frames over the subtype, read through `Subtype.val` -/
theorem AllVals.lift (hv : AllVals P fs) :
    ∃ fs' : List (Frame {v // P v}), mapFrames Subtype.val fs' = fs := by
  induction fs with
  | nil => exact ⟨[], rfl⟩
  | cons f fs ih =>
    obtain ⟨hb, hfs⟩ := AllVals.cons.mp hv
    obtain ⟨fs', rfl⟩ := ih hfs
    refine ⟨⟨f.mod, f.binds.attach.map fun p => (p.1.1, ⟨p.1.2, hb p.1 p.2⟩)⟩ :: fs', ?_⟩
    simp only [mapFrames, List.map_cons, List.map_map, Function.comp_def]
    exact congrArg (· :: _) (congrArg (Frame.mk f.mod) f.binds.attach_map_subtype_val)

theorem AllVals.val (fs : List (Frame {v // P v})) : AllVals P (mapFrames Subtype.val fs) := by
  intro f hf p hp
  obtain ⟨f', -, rfl⟩ := List.mem_map.mp hf
  obtain ⟨p', -, rfl⟩ := List.mem_map.mp hp
  exact p'.2.2

theorem AllVals.lookup {k : QName} {v : β} (hv : AllVals P fs) (hl : lookup fs k = some v) :
    P v := by
  obtain ⟨fs', rfl⟩ := hv.lift
  rw [lookup_map] at hl
  obtain ⟨w, -, rfl⟩ := Option.map_eq_some_iff.mp hl
  exact w.2

theorem AllVals.assign {k : QName} {v : β} (hf : AllVals P fs) (hv : P v) :
    AllVals P (assign fs k v) := by
  obtain ⟨fs', rfl⟩ := hf.lift
  exact assign_map Subtype.val k ⟨v, hv⟩ ▸ AllVals.val _

end frames

/-! ## the heap only grows: addresses keep their meaning -/

theorem derefAt_cons {c : Cell} {h : Heap} {a : Nat} (ha : a < h.length) : derefAt (c :: h) a = derefAt h a := by
  have : a ≠ h.length := by omega
  simp [derefAt, this]

theorem derefAt_of_suffix {h h' : Heap} (x : h <:+ h') {a : Nat} (ha : a < h.length) :
    derefAt h' a = derefAt h a := by
  obtain ⟨new, rfl⟩ := x
  induction new with
  | nil => rfl
  | cons c new ih => rw [List.cons_append, derefAt_cons (by simp; omega), ih]

theorem derefAt_new (c : Cell) (h : Heap) :
    derefAt (c :: h) h.length = (match c with | .base v => v | .view o sel => applySel sel (derefAt h o)) := by
  cases c <;> simp [derefAt]

/-- every array literal of the tree is an allocated cell holding an array -/
def ValidE (h : Heap) : Expr HLit → Prop
  | .lit (.ref a) => a < h.length ∧ isArr (derefAt h a) = true
  | .fn b | .assign _ b | .op1 _ b | .call _ b => ValidE h b
  | .seq a b | .op2 _ a b => ValidE h a ∧ ValidE h b
  | _ => True

theorem ValidE.mono {h h' : Heap} (x : h <:+ h') {e : Expr HLit} (hv : ValidE h e) :
    ValidE h' e ∧ derefE h' e = derefE h e := by
  induction e with
  | lit l =>
    cases l with
    | imm v => exact ⟨trivial, rfl⟩
    | ref a =>
      have d := derefAt_of_suffix x hv.1
      refine ⟨⟨Nat.lt_of_lt_of_le hv.1 x.length_le, d ▸ hv.2⟩, ?_⟩
      rw [derefE, d]
      rfl
  | dlit | var => exact ⟨trivial, rfl⟩
  | fn b ih | assign _ b ih | op1 _ b ih | call _ b ih =>
    obtain ⟨hv', d⟩ := ih hv
    refine ⟨hv', ?_⟩
    rw [derefE, d]
    rfl
  | seq a b iha ihb | op2 _ a b iha ihb =>
    obtain ⟨ha, da⟩ := iha hv.1
    obtain ⟨hb, db⟩ := ihb hv.2
    refine ⟨⟨ha, hb⟩, ?_⟩
    rw [derefE, da, db]
    rfl

def ValidHV (h : Heap) : HV → Prop
  | .arr a => a < h.length
  | .fn b => ValidE h b
  | _ => True

theorem ValidHV.mono {h h' : Heap} (x : h <:+ h') {v : HV} (hv : ValidHV h v) :
    ValidHV h' v ∧ absHV h' v = absHV h v := by
  cases v with
  | imm | dict => exact ⟨trivial, rfl⟩
  | arr a =>
    refine ⟨Nat.lt_of_lt_of_le hv x.length_le, ?_⟩
    rw [absHV, derefAt_of_suffix x hv]
    rfl
  | fn b =>
    obtain ⟨hv', d⟩ := ValidE.mono x hv
    refine ⟨hv', ?_⟩
    rw [absHV, d]
    rfl

theorem frames_mono {h h' : Heap} (x : h <:+ h') {fs : List (Frame HV)}
    (hv : AllVals (ValidHV h) fs) :
    AllVals (ValidHV h') fs ∧ mapFrames (absHV h') fs = mapFrames (absHV h) fs :=
  ⟨hv.mono fun _ p => (ValidHV.mono x p).1,
    mapFrames_congr (hv.mono fun _ p => (ValidHV.mono x p).2)⟩

theorem internE_spec (e : Expr V) (h : Heap) :
    h <:+ (internE e h).2 ∧ ValidE (internE e h).2 (internE e h).1 ∧
      derefE (internE e h).2 (internE e h).1 = e := by
  induction e generalizing h with
  | lit v =>
    by_cases hv : isArr v = true
    · simp only [internE, hv, if_true]
      refine ⟨List.suffix_cons _ _, ⟨by simp, ?_⟩, by simp [derefE, derefAt_new]⟩
      rw [derefAt_new]
      exact hv
    · simp only [internE, hv]
      exact ⟨List.suffix_refl _, trivial, rfl⟩
  | dlit | var => exact ⟨List.suffix_refl _, trivial, rfl⟩
  | fn b ih | assign _ b ih | op1 _ b ih | call _ b ih =>
    obtain ⟨x, v, d⟩ := ih h
    simp only [internE]
    exact ⟨x, v, by simp [derefE, d]⟩
  | seq a b iha ihb | op2 _ a b iha ihb =>
    obtain ⟨x1, v1, d1⟩ := iha h
    obtain ⟨x2, v2, d2⟩ := ihb (internE a h).2
    simp only [internE]
    obtain ⟨v1', d1'⟩ := ValidE.mono x2 v1
    refine ⟨x1.trans x2, ⟨v1', v2⟩, ?_⟩
    simp [derefE, d2, d1', d1]

/-! ## compiled code on admissible operands -/

/-- the variables as generated code sees them, in the by-value machine -/
def renv (t : Ref.S) (q : QName) : Option V :=
  match lookup t.frames q with
  | some (.val v) => some v
  | _ => none

theorem pyArith_admissible (o : AOp) {a b : V} (ha : admissible a = true) (hb : admissible b = true) :
    pyArith o a b = arith o a b := by
  unfold pyArith
  split
  · cases ha
  · cases hb
  · cases ha
  · rfl

/-- along every branch of `arith` the result is no value, or an integer, an integer array or a matrix -/
theorem arith_val_admissible {o : AOp} {a b v : V} (h : arith o a b = .val v) : admissible v = true := by
  unfold arith at h
  repeat' split at h
  all_goals cases h <;> rfl

theorem overSem_val_admissible {o : AOp} {a v : V} (h : overSem o a = .val v) : admissible v = true := by
  unfold overSem at h
  repeat' split at h
  all_goals cases h <;> rfl

theorem scanSem_val_admissible {o : AOp} {a v : V} (h : scanSem o a = .val v) : admissible v = true := by
  unfold scanSem at h
  repeat' split at h
  all_goals cases h <;> rfl

theorem semToRes_overPlace (o : AOp) (a : V) :
    Ref.semToRes a a (overPlace a (overSem o a)) = Ref.semToRes a a (overSem o a) := by
  unfold overPlace
  split
  · -- a one-row matrix: the view of row 0 is the row, and so is the fold over one row
    rename_i r v h
    rw [h]
    cases o
    case minus => cases h
    all_goals
      simp only [overSem] at h
      split at h <;> cases h
      rfl
  · rfl

theorem compileWith_some {L : Type} {li : L → Option Int} {e : Expr L} {c : CExpr}
    (h : compileWith li e = some c) : toIR li e = some c := by
  unfold compileWith at h
  split at h <;> simp_all

section
variable {env : QName → Option V} {o : AOp} {a b : CExpr} {v : V}

theorem pyEval_bin (h : pyEval env (.bin o a b) = some v) :
    ∃ x y, pyEval env a = some x ∧ pyEval env b = some y ∧ pyArith o x y = .val v := by
  rw [pyEval] at h
  split at h
  · split at h <;> cases h
    exact ⟨_, _, ‹_›, ‹_›, ‹_›⟩
  · cases h

theorem pyEval_red (h : pyEval env (.red o a) = some v) : ∃ x, pyEval env a = some x ∧ overSem o x = .val v := by
  rw [pyEval] at h
  split at h
  · split at h
    · split at h <;> cases h
      exact ⟨_, ‹_›, ‹_›⟩
    · cases h
  · cases h

theorem pyEval_scn (h : pyEval env (.scn o a) = some v) : ∃ x, pyEval env a = some x ∧ scanSem o x = .val v := by
  rw [pyEval] at h
  split at h
  · split at h
    · split at h <;> cases h
      exact ⟨_, ‹_›, ‹_›⟩
    · cases h
  · cases h

theorem varsAdmissible_bin (h : varsAdmissible env (.bin o a b) = true) :
    varsAdmissible env a = true ∧ varsAdmissible env b = true := by
  simpa [varsAdmissible, CExpr.vars] using h

end

section
variable {callee : Expr V → Ref.S → Res RV × Ref.S} {t : Ref.S} {a b : Expr V} {v va vb : V}

theorem Ref.evalWith_var_val {q : QName} (h : renv t q = some v) :
    Ref.evalWith callee (.var q) t = (.ok (.val v), t) := by
  unfold renv at h
  simp only [Ref.evalWith, Ref.evalVar]
  split at h <;> simp_all

theorem Ref.evalWith_op1_val {o : MOp} (ha : Ref.evalWith callee a t = (.ok (.val va), t)) :
    Ref.evalWith callee (.op1 o a) t = (Ref.semToRes va va (monadSem o va), t) := by
  simp [Ref.evalWith, ha, Ref.applyOp1]

theorem Ref.evalWith_op2_val {o : DOp} (ha : Ref.evalWith callee a t = (.ok (.val va), t))
    (hb : Ref.evalWith callee b t = (.ok (.val vb), t)) :
    Ref.evalWith callee (.op2 o a b) t = (Ref.semToRes va vb (dyadSem o va vb), t) := by
  simp [Ref.evalWith, ha, hb, Ref.applyOp2]

end

/-- The second conjunct is for the induction: the value is an operand of the enclosing operation. -/
theorem pyEval_sound (callee : Expr V → Ref.S → Res RV × Ref.S) (t : Ref.S) (e : Expr V) {c : CExpr} {v : V}
    (hc : toIR litInt e = some c) (ha : varsAdmissible (renv t) c = true) (hp : pyEval (renv t) c = some v) :
    Ref.evalWith callee e t = (.ok (.val v), t) ∧ admissible v = true := by
  -- the cases are the leaves of `toIR` in source order: a literal (1), a variable (2), arithmetic with
  -- both operands compiled (3), Over (6) and Scan (8) of a compiled operator; the other five return `none`
  fun_induction toIR litInt e generalizing c v with
  | case1 l =>
    cases l <;> cases hc
    cases hp
    exact ⟨rfl, rfl⟩
  | case2 q =>
    cases hc
    have hq : renv t q = some v := hp
    exact ⟨Ref.evalWith_var_val hq, by simpa [varsAdmissible, CExpr.vars, hq] using ha⟩
  | case3 o a b _ x y hy hx iha ihb =>
    cases hc
    obtain ⟨vx, vy, hpx, hpy, hs⟩ := pyEval_bin hp
    obtain ⟨hea, hax⟩ := iha hx (varsAdmissible_bin ha).1 hpx
    obtain ⟨heb, hay⟩ := ihb hy (varsAdmissible_bin ha).2 hpy
    rw [pyArith_admissible o hax hay] at hs
    refine ⟨?_, arith_val_admissible hs⟩
    rw [Ref.evalWith_op2_val hea heb, dyadSem, hs]
    rfl
  | case6 o a _ ih =>
    obtain ⟨x, hx, rfl⟩ := Option.map_eq_some_iff.mp hc
    obtain ⟨vx, hpx, hs⟩ := pyEval_red hp
    obtain ⟨hea, _⟩ := ih hx ha hpx
    refine ⟨?_, overSem_val_admissible hs⟩
    rw [Ref.evalWith_op1_val hea, monadSem, semToRes_overPlace, hs]
    rfl
  | case8 o a _ ih =>
    obtain ⟨x, hx, rfl⟩ := Option.map_eq_some_iff.mp hc
    obtain ⟨vx, hpx, hs⟩ := pyEval_scn hp
    obtain ⟨hea, _⟩ := ih hx ha hpx
    refine ⟨?_, scanSem_val_admissible hs⟩
    rw [Ref.evalWith_op1_val hea, monadSem, hs]
    rfl
  | case4 | case5 | case7 | case9 | case10 => cases hc

/-- `compiled ≡ interpreted on the admissible domain` (hypothesis (ii) of `caches_unobservable`,
    C05's property) holds of this model: whenever generated code runs on admissible operands
    and returns, one interpreter step of `Ref` on the same node returns the same value and
    changes nothing. -/
theorem compiled_agrees_on_admissible (callee : Expr V → Ref.S → Res RV × Ref.S) (t : Ref.S) (e : Expr V)
    (c : CExpr) (v : V) (hc : compileWith litInt e = some c)
    (ha : varsAdmissible (renv t) c = true) (hp : pyEval (renv t) c = some v) :
    Ref.evalWith callee e t = (.ok (.val v), t) :=
  (pyEval_sound callee t e (compileWith_some hc) ha hp).1

theorem pair_eta {α β : Type} (p : α × β) (a : α) (b : β) (h1 : p.1 = a) (h2 : p.2 = b) : p = (a, b) := by
  cases p
  simp_all

/-! ## `Grows`

Below the statement level the compiled cache is at most emptied (by an assignment), and
`CCacheOK` survives a subset (`CCacheOK.subset`): hence `⊆` and not `=`. -/

structure Grows (s s' : S) : Prop where
  heap : s.heap <:+ s'.heap
  ccache : s'.ccache ⊆ s.ccache

theorem Grows.refl (s : S) : Grows s s := ⟨List.suffix_refl _, List.Subset.refl _⟩

theorem Grows.trans {a b c : S} (h1 : Grows a b) (h2 : Grows b c) : Grows a c :=
  ⟨h1.heap.trans h2.heap, h2.ccache.trans h1.ccache⟩

theorem Grows.of_eq {s s' : S} (hh : s'.heap = s.heap) (hc : s'.ccache = s.ccache) : Grows s s' :=
  ⟨hh ▸ List.suffix_refl _, hc ▸ List.Subset.refl _⟩

theorem Grows.push (s : S) (c : Cell) : Grows s { s with heap := c :: s.heap } :=
  ⟨List.suffix_cons _ _, List.Subset.refl _⟩

/-- The `match` is the one `Interp.evalWith` sequences with. Each `match` has an auxiliary matcher of its
    own, but on the same types they unfold to the same term, so this applies after `rw [evalWith]`. -/
theorem Grows.andThen {s : S} {p : Res HV × S} {k : HV → S → Res HV × S}
    (h : Grows s p.2) (hk : ∀ v s1, Grows s1 (k v s1).2) :
    Grows s (match p with | (.ok v, s1) => k v s1 | r => r).2 := by
  obtain ⟨r, s1⟩ := p
  cases r with
  | ok v => exact h.trans (hk v s1)
  | err | unm => exact h

theorem evalVar_grows (s : S) (q : QName) : Grows s (Interp.evalVar s q).2 := by
  unfold Interp.evalVar
  -- a bound variable; the function's own parameter; a new binding
  split
  · exact .of_eq rfl rfl
  · split <;> exact .of_eq rfl rfl

theorem allocV_grows (s : S) (v : V) : Grows s (allocV s v).2 := by
  unfold allocV
  split
  · exact .push s _
  · exact .refl s

theorem place_grows (s : S) (a b : HV) (va vb : V) (sem : Sem) : Grows s (place s a b va vb sem).2 := by
  cases sem with
  | err | unm => exact .refl s
  | val v => exact allocV_grows s v
  | view side sel =>
    simp only [place]
    split
    · exact .push s _
    · exact allocV_grows s _

theorem applyOp1_grows (o : MOp) (s : S) (a : HV) : Grows s (applyOp1 o s a).2 := by
  unfold applyOp1
  -- a dictionary; a function; data, which goes through `place`
  split
  · exact .refl s
  · exact .refl s
  · split
    · exact place_grows ..
    · exact .refl s

/-- the one place where `amendInPlace` matters: with it, Amend calls `heapWrite` -/
theorem applyOp2_grows {cfg : Cfg} (hA : cfg.amendInPlace = false) (o : DOp) (s : S) (a b : HV) :
    Grows s (applyOp2 cfg o s a b).2 := by
  unfold applyOp2
  split
  · split <;> exact .of_eq rfl rfl
  · split
    · simp only [hA, Bool.false_and]
      exact place_grows ..
    · exact .refl s

theorem memoOnly_grows (cfg : Cfg) (s : S) (e : Expr HLit) : Grows s (memoOnly cfg s e) := by
  unfold memoOnly memoCode
  -- a hit; a miss, which adds to `memo`; no cache
  split
  · split <;> exact .of_eq rfl rfl
  · exact .of_eq rfl rfl

theorem tryCompiled_some {cfg : Cfg} {s s1 : S} {e : Expr HLit} {v : HV} (h : tryCompiled cfg s e = some (v, s1)) :
    ∃ c w, (memoCode cfg s e).1 = some c ∧ runCode cfg (memoOnly cfg s e) c = some w ∧
      allocV (memoOnly cfg s e) w = (v, s1) := by
  unfold tryCompiled at h
  simp only at h
  split at h
  · split at h
    · exact ⟨_, _, ‹_›, ‹_›, Option.some.inj h⟩
    · cases h
  · cases h

theorem tryCompiled_grows {cfg : Cfg} {s s1 : S} {e : Expr HLit} {v : HV}
    (h : tryCompiled cfg s e = some (v, s1)) : Grows s s1 := by
  obtain ⟨c, w, -, -, ha⟩ := tryCompiled_some h
  have g := allocV_grows (memoOnly cfg s e) w
  rw [ha] at g
  exact (memoOnly_grows cfg s e).trans g

theorem evalWith_grows {cfg : Cfg} (hA : cfg.amendInPlace = false) {callee : Expr HLit → S → Res HV × S}
    (hcg : ∀ b s, Grows s (callee b s).2) (e : Expr HLit) (s : S) : Grows s (evalWith cfg callee e s).2 := by
  induction e generalizing s with
  | lit l => cases l <;> exact .refl s
  | dlit kvs => exact .of_eq rfl rfl
  | var q => exact evalVar_grows s q
  | fn b => exact .refl s
  | assign q e ih =>
    refine (ih s).andThen fun v s1 => ⟨List.suffix_refl _, ?_⟩
    simp only
    split
    · exact List.nil_subset _
    · exact List.Subset.refl _
  | seq a b iha ihb => exact (iha s).andThen fun _ => ihb
  | op1 o e ih =>
    rw [evalWith]
    split
    · exact tryCompiled_grows ‹_›
    · exact (memoOnly_grows ..).trans ((ih _).andThen fun v s1 => applyOp1_grows o s1 v)
  | op2 o a b iha ihb =>
    rw [evalWith]
    split
    · exact tryCompiled_grows ‹_›
    · exact (memoOnly_grows ..).trans
        ((ihb _).andThen fun vb s1 => (iha s1).andThen fun va s2 => applyOp2_grows hA o s2 va vb)
  | call f arg ih =>
    rw [evalWith]
    split
    · refine (ih s).andThen fun av s1 => ?_
      have g := hcg ‹_› { s1 with frames := ⟨none, [(xName, av)]⟩ :: s1.frames }
      exact ⟨g.heap, g.ccache⟩
    · exact .refl s

theorem evalN_grows {cfg : Cfg} (hA : cfg.amendInPlace = false) (n : Nat) :
    ∀ e s, Grows s (evalN cfg n e s).2 := by
  induction n with
  | zero => exact fun _ s => .refl s
  | succ n ih => exact evalWith_grows hA ih

theorem runModule_grows (s : S) (arg : Option QName) : Grows s (Interp.runModule s arg).2 := by
  cases arg with
  | none => exact .of_eq rfl rfl
  | some q =>
    have g := evalVar_grows s q
    simp only [Interp.runModule]
    generalize Interp.evalVar s q = p at g ⊢
    -- whatever the variable holds, the state returned is that of `evalVar`, at most with frames pushed
    obtain ⟨r, s1⟩ := p
    cases r with
    | ok hv =>
      simp only
      split <;> exact ⟨g.heap, g.ccache⟩
    | err | unm => exact ⟨g.heap, g.ccache⟩

/-! ## simulation of the heap machine by the by-value machine -/

section
variable {cfg : Cfg} {s : S}

theorem Cfg.Good.amend (hG : cfg.Good) : cfg.amendInPlace = false := hG.1

theorem Cfg.Good.cached (hG : cfg.Good) (hc : cfg.caches = true) :
    cfg.keyModule = true ∧ cfg.replayModule = true ∧ cfg.guardArgs = true :=
  hG.2.resolve_left fun h => nomatch hc.symm.trans h

theorem Cfg.Good.guard (hG : cfg.Good) (hc : cfg.caches = true) : cfg.guardArgs = true :=
  (hG.cached hc).2.2

def ValidRes (h : Heap) : Res HV → Prop
  | .ok v => ValidHV h v
  | _ => True

structure Inv (cfg : Cfg) (s : S) : Prop where
  vf : AllVals (ValidHV s.heap) s.frames
  memo : cfg.caches = true → ∀ p ∈ s.memo, p.2 = compileWith hlitInt p.1

theorem Inv.mono (hi : Inv cfg s) {h' : Heap} (x : s.heap <:+ h') :
    Inv cfg { s with heap := h' } ∧ absS { s with heap := h' } = absS s := by
  obtain ⟨vf, a⟩ := frames_mono x hi.vf
  refine ⟨⟨vf, hi.memo⟩, ?_⟩
  simp only [absS]
  rw [a]

theorem Inv.push (hi : Inv cfg s) (m : Option QName) (q : QName) {v : HV} (hv : ValidHV s.heap v) :
    Inv cfg { s with frames := ⟨m, [(q, v)]⟩ :: s.frames } :=
  ⟨by simpa using ⟨hv, hi.vf⟩, hi.memo⟩

/-- `vres`: the result refers to allocated cells, as it must to become an operand or a binding -/
structure Agree (cfg : Cfg) (out : Res HV × S) (rout : Res RV × Ref.S) : Prop where
  inv : Inv cfg out.2
  vres : ValidRes out.2.heap out.1
  eq : rout = (absRes out.2.heap out.1, absS out.2)

@[simp] theorem absRes_unm (h : Heap) : absRes h .unm = .unm := rfl
@[simp] theorem absRes_err (h : Heap) : absRes h .err = .err := rfl
@[simp] theorem absRes_ok (h : Heap) (v : HV) : absRes h (.ok v) = .ok (absHV h v) := rfl

theorem Agree.same {r : Res HV} (hi : Inv cfg s) (hv : ValidRes s.heap r) :
    Agree cfg (r, s) (absRes s.heap r, absS s) :=
  ⟨hi, hv, rfl⟩

/-- `generalizing := false`: otherwise each `match` would take the hypotheses about `p` and `q` along. -/
theorem Agree.andThen {p : Res HV × S} {q : Res RV × Ref.S}
    {k : HV → S → Res HV × S} {kR : RV → Ref.S → Res RV × Ref.S} (g : Grows s p.2) (h : Agree cfg p q)
    (hk : ∀ v s1, Grows s s1 → Inv cfg s1 → ValidHV s1.heap v →
      Agree cfg (k v s1) (kR (absHV s1.heap v) (absS s1))) :
    Agree cfg (match (generalizing := false) p with | (.ok v, s1) => k v s1 | r => r)
      (match (generalizing := false) q with | (.ok v, t) => kR v t | r => r) := by
  obtain ⟨r, s1⟩ := p
  obtain rfl := h.eq
  cases r with
  | ok v => exact hk v s1 g h.inv h.vres
  | err | unm => exact ⟨h.inv, trivial, rfl⟩

theorem Agree.pop {out : Res HV × S} {rout : Res RV × Ref.S} (h : Agree cfg out rout) :
    Agree cfg (out.1, { out.2 with frames := out.2.frames.tail })
      (rout.1, { rout.2 with frames := rout.2.frames.tail }) := by
  refine ⟨⟨h.inv.vf.tail, h.inv.memo⟩, h.vres, ?_⟩
  rw [h.eq]
  simp only [absS, mapFrames_tail]

theorem Agree.alloc (hi : Inv cfg s) (c : Cell) :
    Agree cfg (.ok (.arr s.heap.length), { s with heap := c :: s.heap })
      (.ok (.val (match c with | .base v => v | .view o sel => applySel sel (derefAt s.heap o))), absS s) := by
  obtain ⟨i, a⟩ := hi.mono (List.suffix_cons c s.heap)
  exact ⟨i, by simp [ValidRes, ValidHV], by simp [a, absHV, derefAt_new]⟩

theorem lookup_absS (s : S) (q : QName) : lookup (absS s).frames q = (lookup s.frames q).map (absHV s.heap) :=
  lookup_map ..

theorem env_abs (s : S) (q : QName) : Interp.env s q = renv (absS s) q := by
  unfold Interp.env renv
  rw [lookup_absS]
  cases lookup s.frames q with
  | none => rfl
  | some hv => cases hv <;> simp [toV, absHV]

theorem allocV_agree (v : V) (hi : Inv cfg s) :
    Agree cfg (.ok (allocV s v).1, (allocV s v).2) (.ok (.val v), absS s) := by
  unfold allocV
  split
  · exact .alloc hi (.base v)
  · exact .same hi trivial

theorem toV_imm (h : Heap) (v : V) : toV h (.imm v) = some v := rfl

theorem toV_arr (h : Heap) (p : Nat) : toV h (.arr p) = some (derefAt h p) := rfl

theorem toV_absHV {h : Heap} {hv : HV} {v : V} (ht : toV h hv = some v) : absHV h hv = .val v := by
  cases hv <;> simp [toV] at ht <;> simp [absHV, ht]

theorem place_agree {a b : HV} {va vb : V} {sem : Sem} (hi : Inv cfg s)
    (ha : toV s.heap a = some va) (hb : toV s.heap b = some vb) :
    Agree cfg (place s a b va vb sem) (Ref.semToRes va vb sem, absS s) := by
  cases sem with
  | err | unm => exact .same hi trivial
  | val v => exact allocV_agree v hi
  | view side sel =>
    -- the operand on `side`: a view of its cell or, if it is no array, a fresh copy of the selection
    have one : ∀ (x : HV) (vx : V), toV s.heap x = some vx →
        Agree cfg
          (match x with
           | .arr p => (.ok (.arr s.heap.length), { s with heap := .view p sel :: s.heap })
           | _ => (.ok (allocV s (applySel sel vx)).1, (allocV s (applySel sel vx)).2))
          (.ok (.val (applySel sel vx)), absS s) := by
      intro x vx hx
      cases x with
      | arr p =>
        cases hx
        exact .alloc hi (.view p sel)
      | imm v => exact allocV_agree _ hi
      | dict | fn => cases hx
    cases side
    · exact one a va ha
    · exact one b vb hb

theorem evalVar_agree (q : QName) (hi : Inv cfg s) :
    Agree cfg (Interp.evalVar s q) (Ref.evalVar (absS s) q) := by
  unfold Interp.evalVar Ref.evalVar
  rw [lookup_absS]
  cases h : lookup s.frames q with
  | some v => exact .same hi (hi.vf.lookup h)
  | none =>
    simp only [Option.map_none]
    by_cases hx : q.base = xBase
    · simp only [hx, if_true]
      exact .same hi trivial
    · simp only [hx, if_false]
      refine ⟨⟨hi.vf.assign trivial, hi.memo⟩, trivial, ?_⟩
      simp only [absS, ← assign_map]
      rfl

theorem applyOp1_agree (o : MOp) (a : HV) (hi : Inv cfg s) :
    Agree cfg (applyOp1 o s a) (Ref.applyOp1 o (absS s) (absHV s.heap a)) := by
  cases a with
  | imm | arr => exact place_agree hi rfl rfl
  | dict r =>
    simp only [applyOp1, Ref.applyOp1, absHV]
    cases o <;> exact .same hi trivial
  | fn b => exact .same hi trivial

theorem applyOp2_data (hA : cfg.amendInPlace = false) (o : DOp) {a b : HV} {va vb : V}
    (ha : toV s.heap a = some va) (hb : toV s.heap b = some vb) :
    applyOp2 cfg o s a b = place s a b va vb (dyadSem o va vb) := by
  cases a <;> cases ha <;> simp only [applyOp2, toV_imm, toV_arr, hb, hA, Bool.false_and] <;> rfl

theorem applyOp2_agree (hA : cfg.amendInPlace = false) (o : DOp) (a b : HV) (hi : Inv cfg s) :
    Agree cfg (applyOp2 cfg o s a b) (Ref.applyOp2 o (absS s) (absHV s.heap a) (absHV s.heap b)) := by
  have unm : Agree cfg ((.unm : Res HV), s) (.unm, absS s) := .same hi trivial
  cases ha : toV s.heap a with
  | some va =>
    cases hb : toV s.heap b with
    | some vb =>
      rw [toV_absHV ha, toV_absHV hb, applyOp2_data hA o ha hb]
      exact place_agree hi ha hb
    | none => cases b <;> cases hb <;> cases a <;> cases ha <;> exact unm
  | none =>
    cases a with
    | imm | arr => cases ha
    | fn => exact unm
    | dict r =>
      cases hb : toV s.heap b with
      | none => cases b <;> cases hb <;> cases o <;> exact unm
      | some vb =>
        rw [toV_absHV hb]
        simp only [applyOp2, hb, Ref.applyOp2, absHV]
        -- the arms of `applyOp2` on a dictionary, the same in both machines
        split
        · -- `d,[k v]`: the pair is written into the dictionary heap
          rename_i h
          cases h
          exact ⟨⟨hi.vf, hi.memo⟩, trivial, rfl⟩
        · -- `d?k`: the value stored under `k`
          rename_i h
          cases h
          exact .same hi trivial
        · -- `unm`, also in `Ref`: its first two arms are these two (`h1`, `h2`)
          rename_i h1 h2
          split
          · exact (h1 _ _ rfl rfl).elim
          · exact (h2 _ rfl rfl).elim
          · exact unm

/-! ### the compiled path -/

theorem isArr_litInt {v : V} (h : isArr v = true) : litInt v = none := by
  cases v <;> simp [isArr] at h <;> rfl

theorem toIR_deref {h : Heap} {e : Expr HLit} (hv : ValidE h e) :
    toIR litInt (derefE h e) = toIR hlitInt e := by
  induction e with
  | lit l =>
    cases l with
    | imm v => rfl
    | ref a => simp [derefE, toIR, hlitInt, isArr_litInt hv.2]
  | dlit | var | fn | assign | seq | call => rfl
  | op1 o e ih =>
    cases o with
    | rev | size => rfl
    | over o | scan o => simp only [derefE, toIR, ih hv]
  | op2 o a b iha ihb =>
    cases o with
    | arith o => simp only [derefE, toIR, iha hv.1, ihb hv.2]
    | _ => rfl

theorem compileWith_deref {h : Heap} {e : Expr HLit} (hv : ValidE h e) :
    compileWith litInt (derefE h e) = compileWith hlitInt e := by
  unfold compileWith
  rw [toIR_deref hv]

theorem compileNow_guard (hg : cfg.guardArgs = true) (s : S) (e : Expr HLit) :
    compileNow cfg s e = compileWith hlitInt e := by
  unfold compileNow
  cases compileWith hlitInt e <;> simp [hg]

variable {e : Expr HLit}

/-- `compileNow` hands out code if operands are checked at the call or are admissible now, and `runCode`
    returns only if a check at the call passed: either way the code ran on admissible operands. -/
theorem code_sound {c : CExpr} {w : V} {calleeR : Expr V → Ref.S → Res RV × Ref.S}
    (hv : ValidE s.heap e)
    (hc : compileNow cfg s e = some c) (hr : runCode cfg s c = some w) :
    Ref.evalWith calleeR (derefE s.heap e) (absS s) = (.ok (.val w), absS s) := by
  unfold compileNow at hc
  unfold runCode at hr
  rw [funext (env_abs s)] at hc hr
  split at hc
  · split at hc <;> cases hc
    split at hr
    · cases hr
    · refine compiled_agrees_on_admissible calleeR (absS s) _ c w ((compileWith_deref hv).trans ‹_›) ?_ hr
      cases ha : varsAdmissible (renv (absS s)) c <;> simp_all
  · cases hc

theorem memoCode_spec (hG : cfg.Good) (hi : Inv cfg s) (e : Expr HLit) :
    ∃ m, memoCode cfg s e = (compileNow cfg s e, { s with memo := m }) ∧ Inv cfg { s with memo := m } := by
  unfold memoCode
  split
  · rename_i hc
    have now := compileNow_guard (hG.guard hc) s e
    split
    · rename_i c hl
      exact ⟨s.memo, by rw [now, ← hi.memo hc _ (mem_of_lookup hl)], hi⟩
    · exact ⟨_, rfl, hi.vf, fun _ => List.forall_mem_cons.mpr ⟨now, hi.memo hc⟩⟩
  · exact ⟨s.memo, rfl, hi⟩

theorem tryCompiled_agree {s1 : S} {v : HV} {calleeR : Expr V → Ref.S → Res RV × Ref.S} (hG : cfg.Good)
    (hi : Inv cfg s) (hv : ValidE s.heap e) (h : tryCompiled cfg s e = some (v, s1)) :
    Agree cfg (.ok v, s1) (Ref.evalWith calleeR (derefE s.heap e) (absS s)) := by
  obtain ⟨c, w, hc, hr, ha⟩ := tryCompiled_some h
  obtain ⟨m, hm, im⟩ := memoCode_spec hG hi e
  rw [memoOnly, hm] at hr ha
  rw [hm] at hc
  rw [code_sound hv hc hr]
  have hs := allocV_agree w im
  rwa [ha] at hs

end

theorem evalWith_agree {cfg : Cfg} (hG : cfg.Good)
    {callee : Expr HLit → S → Res HV × S} {calleeR : Expr V → Ref.S → Res RV × Ref.S}
    (hcg : ∀ b s, Grows s (callee b s).2)
    (hcal : ∀ b s, Inv cfg s → ValidE s.heap b →
      Agree cfg (callee b s) (calleeR (derefE s.heap b) (absS s)))
    (e : Expr HLit) (s : S) (hi : Inv cfg s) (hv : ValidE s.heap e) :
    Agree cfg (evalWith cfg callee e s) (Ref.evalWith calleeR (derefE s.heap e) (absS s)) := by
  have grows := fun e s => evalWith_grows hG.amend hcg e s
  induction e generalizing s with
  | lit l =>
    cases l with
    | imm v => exact .same hi trivial
    | ref a => exact .same hi hv.1
  | dlit kvs => exact ⟨⟨hi.vf, hi.memo⟩, trivial, rfl⟩
  | var q => exact evalVar_agree q hi
  | fn b => exact .same hi hv
  | assign q e ih =>
    refine (ih s hi hv).andThen (grows e s) fun v s1 _ i1 hv1 => ⟨⟨i1.vf.assign hv1, i1.memo⟩, hv1, ?_⟩
    simp only [absS, absRes_ok, ← assign_map]
  | seq a b iha ihb =>
    refine (iha s hi hv.1).andThen (grows a s) fun _ s1 x i1 _ => ?_
    obtain ⟨hv1, d⟩ := ValidE.mono x.heap hv.2
    exact d ▸ ihb s1 i1 hv1
  | op1 o e ih =>
    rw [evalWith]
    split
    · exact tryCompiled_agree hG hi hv ‹_›
    · obtain ⟨m, hm, i0⟩ := memoCode_spec hG hi (.op1 o e)
      rw [memoOnly, hm, derefE, Ref.evalWith]
      exact (ih _ i0 hv).andThen (grows e _) fun v s1 _ i1 _ => applyOp1_agree o v i1
  | op2 o a b iha ihb =>
    rw [evalWith]
    split
    · exact tryCompiled_agree hG hi hv ‹_›
    · obtain ⟨m, hm, i0⟩ := memoCode_spec hG hi (.op2 o a b)
      rw [memoOnly, hm, derefE, Ref.evalWith]
      refine (ihb _ i0 hv.2).andThen (grows b _) fun vb s1 x1 i1 hvb => ?_
      obtain ⟨hva, d⟩ := ValidE.mono x1.heap hv.1
      rw [← d]
      refine (iha s1 i1 hva).andThen (grows a s1) fun va s2 x2 i2 _ => ?_
      -- `vb` was computed before `a` ran: it denotes the same value in the later heap
      rw [← (ValidHV.mono x2.heap hvb).2]
      exact applyOp2_agree hG.amend o va vb i2
  | call f arg ih =>
    rw [evalWith, derefE, Ref.evalWith, lookup_absS]
    rcases hf : lookup s.frames f with _ | ⟨_ | _ | _ | body⟩ <;> try exact .same hi trivial
    have hbody : ValidE s.heap body := hi.vf.lookup hf
    simp only [Option.map_some, absHV]
    refine (ih s hi hv).andThen (grows arg s) fun av s1 x i1 hav => ?_
    -- the body was looked up before the argument ran and is still valid after it
    obtain ⟨hb1, d⟩ := ValidE.mono x.heap hbody
    exact d ▸ (hcal body _ (i1.push none xName hav) hb1).pop

theorem evalN_agree {cfg : Cfg} (hG : cfg.Good) (n : Nat) :
    ∀ (e : Expr HLit) (s : S), Inv cfg s → ValidE s.heap e →
      Agree cfg (evalN cfg n e s) (Ref.evalN n (derefE s.heap e) (absS s)) := by
  induction n with
  | zero => exact fun _ _ hi _ => .same hi trivial
  | succ n ih => exact evalWith_agree hG (evalN_grows hG.amend n) ih

/-! ## the statement level: parse cache, compiled cache, module switches -/

def ValidS (h : Heap) : Stmt HLit → Prop
  | .expr e => ValidE h e
  | .module _ => True

def compileStmt : Text → Option CExpr
  | .expr e => compileWith litInt e
  | .module _ => none

/-- every compiled-cache entry is the structural compilation of the text it is filed under -/
def CCacheOK (cfg : Cfg) (parse : Parse) (cc : List ((Text × Option Nat) × Option CExpr)) : Prop :=
  cfg.caches = true → ∀ p ∈ cc, p.2 = compileStmt (parse p.1.1 p.1.2).1

/-- every parse-cache entry is what `parse` returns for its key: the tree and the module -/
def PCacheOK (cfg : Cfg) (parse : Parse) (h : Heap)
    (pc : List ((Text × Option Nat) × (Stmt HLit × Option Nat))) : Prop :=
  cfg.caches = true → ∀ p ∈ pc,
    ValidS h p.2.1 ∧ derefS h p.2.1 = (parse p.1.1 p.1.2).1 ∧ p.2.2 = (parse p.1.1 p.1.2).2

structure SInv (cfg : Cfg) (parse : Parse) (st : State) : Prop where
  inv : Inv cfg st.s
  pc : PCacheOK cfg parse st.s.heap st.pcache
  cc : CCacheOK cfg parse st.s.ccache

section
variable {cfg : Cfg} {parse : Parse} {st : State}

theorem SInv.fresh {fs : List (Frame HV)} {h : Heap} (v : AllVals (ValidHV h) fs)
    (d : DHeap) (m : Option Nat) : SInv cfg parse ⟨⟨fs, h, d, [], []⟩, m, []⟩ :=
  ⟨⟨v, fun _ _ h => nomatch h⟩, fun _ _ h => (nomatch h), fun _ _ h => nomatch h⟩

theorem SInv.init : SInv cfg parse Interp.init :=
  .fresh (by simp) [] none

theorem CCacheOK.subset {cc cc'} (h : CCacheOK cfg parse cc) (x : cc' ⊆ cc) :
    CCacheOK cfg parse cc' :=
  fun hc p hm => h hc p (x hm)

theorem ValidS.mono {h h' : Heap} (x : h <:+ h') {t : Stmt HLit} (hv : ValidS h t) :
    ValidS h' t ∧ derefS h' t = derefS h t := by
  cases t with
  | expr e =>
    obtain ⟨hv', d⟩ := ValidE.mono x hv
    refine ⟨hv', ?_⟩
    rw [derefS, d]
    rfl
  | module a => exact ⟨trivial, rfl⟩

theorem PCacheOK.mono {h h' : Heap} {pc} (x : h <:+ h') (hp : PCacheOK cfg parse h pc) :
    PCacheOK cfg parse h' pc := by
  intro hc p hm
  obtain ⟨v, d, m⟩ := hp hc p hm
  obtain ⟨v', d'⟩ := ValidS.mono x v
  exact ⟨v', d'.trans d, m⟩

theorem internS_spec (t : Text) (h : Heap) :
    h <:+ (internS t h).2 ∧ ValidS (internS t h).2 (internS t h).1 ∧
      derefS (internS t h).2 (internS t h).1 = t := by
  cases t with
  | expr e =>
    obtain ⟨x, v, d⟩ := internE_spec e h
    exact ⟨x, v, by simp [internS, derefS, d]⟩
  | module a => exact ⟨List.suffix_refl _, trivial, rfl⟩

theorem fetch_suffix (cfg : Cfg) (parse : Parse) (st : State) (t : Text) :
    st.s.heap <:+ (fetch cfg parse st t).2.s.heap := by
  have miss : st.s.heap <:+ (fetchMiss cfg parse st t).2.s.heap := (internS_spec _ _).1
  unfold fetch
  split
  · split
    · exact List.suffix_refl _
    · exact miss
  · exact miss

structure Fetched (cfg : Cfg) (parse : Parse) (st : State) (t : Text) (r : Stmt HLit × State) : Prop where
  sinv : SInv cfg parse r.2
  vs : ValidS r.2.s.heap r.1
  tree : derefS r.2.s.heap r.1 = (parse t st.module).1
  mod : r.2.module = (parse t st.module).2
  abs : absS r.2.s = absS st.s

theorem key_eq (hG : cfg.Good) (hc : cfg.caches = true) (st : State) (t : Text) :
    key cfg st t = (t, st.module) := by
  simp [key, (hG.cached hc).1]

theorem fetchMiss_spec (hG : cfg.Good) (t : Text) (h : SInv cfg parse st) :
    Fetched cfg parse st t (fetchMiss cfg parse st t) := by
  obtain ⟨x, v, d⟩ := internS_spec (parse t st.module).1 st.s.heap
  obtain ⟨i, a⟩ := h.inv.mono x
  refine ⟨⟨i, fun hc => ?_, h.cc⟩, v, d, rfl, a⟩
  simp only [fetchMiss, hc, if_true, key_eq hG hc]
  exact List.forall_mem_cons.mpr ⟨⟨v, d, rfl⟩, h.pc.mono x hc⟩

theorem fetch_spec (hG : cfg.Good) (t : Text) (h : SInv cfg parse st) :
    Fetched cfg parse st t (fetch cfg parse st t) := by
  unfold fetch
  by_cases hc : cfg.caches = true
  · simp only [hc, if_true]
    cases hl : st.pcache.lookup (key cfg st t) with
    | none => exact fetchMiss_spec hG t h
    | some p =>
      obtain ⟨itree, m'⟩ := p
      obtain ⟨v, d, m⟩ := h.pc hc _ (mem_of_lookup hl)
      rw [key_eq hG hc] at d m
      simp only [(hG.cached hc).2.1, if_true]
      exact ⟨⟨h.inv, h.pc, h.cc⟩, v, d, m, rfl⟩
  · simp only [hc]
    exact fetchMiss_spec hG t h

theorem runModule_agree {s : S} (arg : Option QName) (hi : Inv cfg s) :
    Agree cfg (Interp.runModule s arg) (Ref.runModule (absS s) arg) := by
  cases arg with
  | none => exact ⟨hi.push none xName trivial, trivial, rfl⟩
  | some q =>
    simp only [Interp.runModule, Ref.runModule]
    have h1 := evalVar_agree q hi
    generalize Interp.evalVar s q = p at h1
    obtain ⟨r, s1⟩ := p
    rw [h1.eq]
    cases r with
    | err | unm => exact ⟨h1.inv, trivial, rfl⟩
    | ok hv =>
      simp only [absRes_ok]
      cases ht : toV s1.heap hv with
      | none => cases hv <;> simp [toV] at ht <;> exact ⟨h1.inv, trivial, rfl⟩
      | some v =>
        rw [toV_absHV ht]
        cases v <;> try exact ⟨h1.inv, trivial, rfl⟩
        refine ⟨⟨by simpa using (h1.inv.push none xName h1.vres).vf, h1.inv.memo⟩, trivial, ?_⟩
        simp only [absS, mapFrames, List.map_cons, List.map_nil, toV_absHV ht]
        rfl

/-! ### `__call__`: compiled cache, then the interpreter -/

theorem topCode_heap (cfg : Cfg) (k : Text × Option Nat) (s : S) (e : Expr HLit) :
    (topCode cfg k s e).2.heap = s.heap := by
  unfold topCode
  split
  · split <;> rfl
  · rfl

theorem topCode_spec (hG : cfg.Good) {k : Text × Option Nat} {s : S} {e : Expr HLit}
    (hv : ValidE s.heap e) (hcc : CCacheOK cfg parse s.ccache)
    (hk : cfg.caches = true → (parse k.1 k.2).1 = .expr (derefE s.heap e)) :
    ∃ cc, topCode cfg k s e = (compileNow cfg s e, { s with ccache := cc }) ∧
      CCacheOK cfg parse cc := by
  unfold topCode
  split
  · rename_i hc
    have now : compileNow cfg s e = compileStmt (parse k.1 k.2).1 := by
      rw [hk hc, compileNow_guard (hG.guard hc), compileStmt, compileWith_deref hv]
    split
    · rename_i c hl
      exact ⟨s.ccache, by rw [now, ← hcc hc _ (mem_of_lookup hl)], hcc⟩
    · exact ⟨_, rfl, fun _ => List.forall_mem_cons.mpr ⟨now, hcc hc⟩⟩
  · exact ⟨s.ccache, rfl, hcc⟩

/-- `__call__` on an expression, once `topCode` has delivered `c?` and `s1`: it falls through to the
    interpreter (no code, or `runCode` returns `none`), or the code returned `w` and that is the answer.
    The second case carries both facts about the state returned, so `exprStep_suffix` and
    `exprStep_spec` do not look into `topCompiled`. -/
theorem exprStep_cases {k : Text × Option Nat} {s s1 : S} {e : Expr HLit} {c? : Option CExpr}
    (ht : topCode cfg k s e = (c?, s1)) :
    exprStep cfg k s e = evalN cfg Interp.depth e s1 ∨
    ∃ c w, c? = some c ∧ runCode cfg s1 c = some w ∧ Grows s1 (exprStep cfg k s e).2 ∧
      (Inv cfg s1 → Agree cfg (exprStep cfg k s e) (.ok (.val w), absS s1)) := by
  cases c? with
  | none => exact .inl (by simp only [exprStep, topCompiled, ht])
  | some c =>
    cases hr : runCode cfg s1 c with
    | none => exact .inl (by simp only [exprStep, topCompiled, ht, hr])
    | some w =>
      refine .inr ⟨c, w, rfl, hr, ?_⟩
      have alloc := And.intro (allocV_grows s1 w) fun hi : Inv cfg s1 => allocV_agree w hi
      cases c with
      | var q =>
        cases hl : lookup s1.frames q with
        | none => simpa only [exprStep, topCompiled, ht, hr, CExpr.vars, List.headD_cons, hl] using alloc
        | some hv =>
          simp only [exprStep, topCompiled, ht, hr, CExpr.vars, List.headD_cons, hl]
          -- `return _v0`: the binding itself is the answer, and the code returned what it denotes
          simp only [runCode, pyEval, Interp.env, hl, Option.ite_none_left_eq_some] at hr
          exact ⟨.refl s1, fun hi => ⟨hi, hi.vf.lookup hl, by simp only [absRes_ok, toV_absHV hr.2]⟩⟩
      | lit | bin | red | scn => simpa only [exprStep, topCompiled, ht, hr] using alloc

/-- Only the heap half of `Grows`: at the statement level `topCode` adds to the compiled cache. -/
theorem exprStep_suffix (hA : cfg.amendInPlace = false) {k : Text × Option Nat} {s : S} {e : Expr HLit} :
    s.heap <:+ (exprStep cfg k s e).2.heap := by
  rw [← topCode_heap cfg k s e]
  rcases exprStep_cases (rfl : topCode cfg k s e = _) with h | ⟨c, w, -, -, g, -⟩
  · rw [h]
    exact (evalN_grows hA _ e _).heap
  · exact g.heap

theorem exprStep_spec (hG : cfg.Good) {k : Text × Option Nat} {s : S} {e : Expr HLit} (hi : Inv cfg s)
    (hv : ValidE s.heap e) (hcc : CCacheOK cfg parse s.ccache)
    (hk : cfg.caches = true → (parse k.1 k.2).1 = .expr (derefE s.heap e)) :
    Agree cfg (exprStep cfg k s e) (Ref.evalN Ref.depth (derefE s.heap e) (absS s)) ∧
    CCacheOK cfg parse (exprStep cfg k s e).2.ccache := by
  obtain ⟨cc, ht, hcc1⟩ := topCode_spec hG hv hcc hk
  have i1 : Inv cfg { s with ccache := cc } := ⟨hi.vf, hi.memo⟩
  rcases exprStep_cases ht with h | ⟨c, w, hc, hr, g, ag⟩
  · rw [h]
    exact ⟨evalN_agree hG Interp.depth e _ i1 hv, hcc1.subset (evalN_grows hG.amend _ e _).ccache⟩
  · rw [show Ref.evalN Ref.depth (derefE s.heap e) (absS s) = _ from code_sound hv hc hr]
    exact ⟨ag i1, hcc1.subset g.ccache⟩

theorem step_suffix (hA : cfg.amendInPlace = false) (parse : Parse) (st : State) (t : Text) :
    st.s.heap <:+ (Interp.step cfg parse st t).1.s.heap := by
  have hf := fetch_suffix cfg parse st t
  simp only [Interp.step]
  split
  · exact hf.trans (exprStep_suffix hA)
  · exact hf.trans (runModule_grows _ _).heap

theorem step_sim (hG : cfg.Good) (t : Text) (h : SInv cfg parse st) :
    SInv cfg parse (Interp.step cfg parse st t).1 ∧
    absRes (Interp.step cfg parse st t).1.s.heap (Interp.step cfg parse st t).2 = (Ref.step parse (abs st) t).2 ∧
    abs (Interp.step cfg parse st t).1 = (Ref.step parse (abs st) t).1 := by
  have F := fetch_spec hG t h
  simp only [Interp.step, Ref.step, abs]
  rw [← F.tree]
  generalize fetch cfg parse st t = r at F ⊢
  obtain ⟨tree, st1⟩ := r
  cases tree with
  | module arg =>
    have hs := runModule_agree arg F.sinv.inv
    have hg := runModule_grows st1.s arg
    rw [F.abs] at hs
    refine ⟨⟨hs.inv, F.sinv.pc.mono hg.heap, F.sinv.cc.subset hg.ccache⟩, ?_⟩
    simp only [derefS]
    rw [hs.eq]
    exact ⟨rfl, congrArg _ F.mod⟩
  | expr e =>
    have hk : cfg.caches = true →
        (parse (key cfg st t).1 (key cfg st t).2).1 = .expr (derefE st1.s.heap e) := by
      intro hc
      rw [key_eq hG hc]
      exact F.tree.symm
    obtain ⟨hs, c⟩ := exprStep_spec hG F.sinv.inv F.vs F.sinv.cc hk
    rw [F.abs] at hs
    refine ⟨⟨hs.inv, F.sinv.pc.mono (exprStep_suffix hG.amend), c⟩, ?_⟩
    simp only [derefS]
    rw [hs.eq]
    exact ⟨rfl, congrArg _ F.mod⟩

theorem trace_sim (hG : cfg.Good) (ts : List Text) (h : SInv cfg parse st) :
    Interp.trace cfg parse st ts = Ref.trace parse (abs st) ts := by
  induction ts generalizing st with
  | nil => rfl
  | cons t ts ih =>
    obtain ⟨i, e1, e2⟩ := step_sim hG t h
    simp only [Interp.trace, Interp.stepObs, Ref.trace]
    rw [ih i, e1, e2]

theorem run_SInv (hG : cfg.Good) (ts : List Text) (h : SInv cfg parse st) :
    SInv cfg parse (Interp.run cfg parse st ts).1 := by
  induction ts generalizing st with
  | nil => exact h
  | cons t ts ih =>
    simp only [Interp.run]
    exact ih (step_sim hG t h).1

theorem stepObs_abs (hG : cfg.Good) {st' : State}
    (h : SInv cfg parse st) (h' : SInv cfg parse st') (e : abs st = abs st') (t : Text) :
    (Interp.stepObs cfg parse st t).2 = (Interp.stepObs cfg parse st' t).2 := by
  obtain ⟨-, r, a⟩ := step_sim hG t h
  obtain ⟨-, r', a'⟩ := step_sim hG t h'
  simp only [Interp.stepObs]
  rw [r, a, r', a', e]

/-! ### a fresh interpreter loaded with a copy of the variable state -/

theorem loadHV_spec (v : RV) (h : Heap) :
    h <:+ (loadHV v h).2 ∧ ValidHV (loadHV v h).2 (loadHV v h).1 ∧
      absHV (loadHV v h).2 (loadHV v h).1 = v := by
  cases v with
  | val w =>
    by_cases ha : isArr w = true
    · simp only [loadHV, ha, if_true]
      exact ⟨List.suffix_cons _ _, by simp [ValidHV], by simp [absHV, derefAt_new]⟩
    · simp only [loadHV, ha]
      exact ⟨List.suffix_refl _, trivial, rfl⟩
  | dict r => exact ⟨List.suffix_refl _, trivial, rfl⟩
  | fn b =>
    obtain ⟨x, v, d⟩ := internE_spec b h
    simp only [loadHV]
    exact ⟨x, v, by simp [absHV, d]⟩

theorem loadBinds_spec (bs : List (QName × RV)) (h : Heap) :
    h <:+ (loadBinds bs h).2 ∧ (∀ p ∈ (loadBinds bs h).1, ValidHV (loadBinds bs h).2 p.2) ∧
    (loadBinds bs h).1.map (fun p => (p.1, absHV (loadBinds bs h).2 p.2)) = bs := by
  induction bs generalizing h with
  | nil => exact ⟨List.suffix_refl _, fun _ hp => (nomatch hp), rfl⟩
  | cons p bs ih =>
    obtain ⟨q, v⟩ := p
    obtain ⟨x1, v1, a1⟩ := loadHV_spec v h
    obtain ⟨x2, v2, a2⟩ := ih (loadHV v h).2
    simp only [loadBinds]
    obtain ⟨v1', a1'⟩ := ValidHV.mono x2 v1
    refine ⟨x1.trans x2, List.forall_mem_cons.mpr ⟨v1', v2⟩, ?_⟩
    simp only [List.map_cons, a2, a1', a1]

theorem loadFrames_spec (fs : List (Frame RV)) (h : Heap) :
    h <:+ (loadFrames fs h).2 ∧ AllVals (ValidHV (loadFrames fs h).2) (loadFrames fs h).1 ∧
    mapFrames (absHV (loadFrames fs h).2) (loadFrames fs h).1 = fs := by
  induction fs generalizing h with
  | nil => exact ⟨List.suffix_refl _, AllVals.nil, rfl⟩
  | cons f fs ih =>
    obtain ⟨x1, v1, a1⟩ := loadBinds_spec f.binds h
    obtain ⟨x2, v2, a2⟩ := ih (loadBinds f.binds h).2
    simp only [loadFrames]
    refine ⟨x1.trans x2, AllVals.cons.mpr ⟨fun p hp => (ValidHV.mono x2 (v1 p hp)).1, v2⟩, ?_⟩
    simp only [mapFrames, List.map_cons] at a2 ⊢
    rw [a2, List.map_congr_left fun p hp => by rw [(ValidHV.mono x2 (v1 p hp)).2], a1]

theorem load_spec (cfg : Cfg) (parse : Parse) (r : Ref.State) :
    SInv cfg parse (Interp.load r) ∧ abs (Interp.load r) = r := by
  obtain ⟨_, v, a⟩ := loadFrames_spec r.s.frames []
  exact ⟨.fresh v _ _, by simp only [abs, absS, Interp.load, a]⟩

end

/-! ## the property theorems -/

/-- **value semantics**: for every `Good` configuration, every parse function and every
    history, the heap machine (arrays as heap cells, views, caches) and the by-value,
    cache-free machine produce the same outcomes and the same variable states. -/
theorem value_semantics (cfg : Cfg) (hGood : cfg.Good) (parse : Parse) (ts : List Text) :
    Interp.trace cfg parse Interp.init ts = Ref.trace parse Ref.init ts :=
  trace_sim hGood ts SInv.init

/-- **caches are unobservable**: for every history of statements the cached machine (parse
    cache under (text, module) replaying the module switch, compiled cache, per-node memo,
    operand check at every compiled call) and the cache-free machine produce the same outcomes
    and variable states — for ANY `parse`, i.e. given only that parsing is a function of
    (text, module) whose one effect is the module it returns. -/
theorem caches_unobservable (parse : Parse) (ts : List Text) :
    Interp.trace Cfg.repaired parse Interp.init ts = Interp.trace Cfg.noCache parse Interp.init ts := by
  rw [value_semantics Cfg.repaired (by decide) parse ts, value_semantics Cfg.noCache (by decide) parse ts]

/-- **no verb writes its argument**: in every configuration without the in-place mutant
    (the pinned one included), from every state, a statement only allocates: the old heap is a
    suffix of the new one, so every cell reachable from a variable or from a cached tree keeps
    its contents. -/
theorem no_verb_writes_its_argument (cfg : Cfg) (hA : cfg.amendInPlace = false) (parse : Parse)
    (st : State) (t : Text) :
    (∃ new, (Interp.step cfg parse st t).1.s.heap = new ++ st.s.heap) ∧
    ∀ a, a < st.s.heap.length → derefAt (Interp.step cfg parse st t).1.s.heap a = derefAt st.s.heap a := by
  have x := step_suffix hA parse st t
  exact ⟨x.imp fun _ => Eq.symm, fun a ha => derefAt_of_suffix x ha⟩

/-- **the statement-level form of the property**: after any history, a statement run in the
    interpreter that has the history behind it and the same statement run in a fresh
    interpreter loaded with a copy of the variable state give the same outcome and the same
    variable state. -/
theorem rerun_in_fresh_interpreter (cfg : Cfg) (hGood : cfg.Good) (parse : Parse) (hist : List Text) (t : Text) :
    (Interp.stepObs cfg parse (Interp.run cfg parse Interp.init hist).1 t).2 =
    (Interp.stepObs cfg parse (Interp.load (abs (Interp.run cfg parse Interp.init hist).1)) t).2 := by
  obtain ⟨h2, a2⟩ := load_spec cfg parse (abs (Interp.run cfg parse Interp.init hist).1)
  exact stepObs_abs hGood (run_SInv hGood hist SInv.init) h2 a2.symm t

/-! ### non-vacuity -/

example : Cfg.repaired.Good := by decide
example : Cfg.noCache.Good := by decide
example : ¬ Cfg.pinned.Good := by decide

namespace Witness
-- positions in the harness's name table (vlib/c04.py `NAMES`: a b c d f g t x m1 m2; `x` = `xBase`)
def a_ : QName := ⟨0, none⟩
def b_ : QName := ⟨1, none⟩
def c_ : QName := ⟨2, none⟩
def f_ : QName := ⟨4, none⟩
def m1 : QName := ⟨8, none⟩

/-- `a::[1 2 3 4]`  `b::1_a`  `c::b:=9,0`  `f::{x,[7 7]}`  `c::f(a)`  `a`  `b::a+a`  `a+a`  -/
def histViews : List Text :=
  [.expr (.assign a_ (.lit (.ints [1, 2, 3, 4]))),
   .expr (.assign b_ (.op2 .drop (.lit (.int 1)) (.var a_))),
   .expr (.assign c_ (.op2 .amend (.var b_) (.op2 .join (.lit (.int 9)) (.lit (.int 0))))),
   .expr (.assign f_ (.fn (.op2 .join (.var xName) (.lit (.ints [7, 7]))))),
   .expr (.assign c_ (.call f_ (.var a_))),
   .expr (.var a_),
   .expr (.assign b_ (.op2 (.arith .plus) (.var a_) (.var a_))),
   .expr (.op2 (.arith .plus) (.var a_) (.var a_))]

/-- views, an amended view, a function with an array literal, compiled arithmetic — the final value
    of `b` is `[2 4 6 8]` and `a` is still `[1 2 3 4]` -/
example : (Ref.trace parseQ Ref.init histViews).map (·.1) =
    [.ok (.val (.ints [1, 2, 3, 4])), .ok (.val (.ints [2, 3, 4])), .ok (.val (.ints [9, 3, 4])), .ok (.fn (.op2 .join (.var xName) (.lit (.ints [7, 7])))),
     .ok (.val (.ints [1, 2, 3, 4, 7, 7])), .ok (.val (.ints [1, 2, 3, 4])), .ok (.val (.ints [2, 4, 6, 8])),
     .ok (.val (.ints [2, 4, 6, 8]))] := by decide +kernel

example : Interp.trace Cfg.repaired parseQ Interp.init histViews = Ref.trace parseQ Ref.init histViews := by
  decide +kernel

/-- the second statement of `histViews` creates a view cell, the third fresh ones (`9,0` and the amended copy) -/
example : (Interp.run Cfg.repaired parseQ Interp.init (histViews.take 3)).1.s.heap =
    [.base (.ints [9, 3, 4]), .base (.ints [9, 0]), .view 0 (.slice 1 4), .base (.ints [1, 2, 3, 4])] := by decide +kernel

/-- `.module(:m1)`  `.module(0)`  `.module(:m1)`  `b::2` -/
def histModule : List Text :=
  [.module (some m1), .module none, .module (some m1), .expr (.assign b_ (.lit (.int 2)))]

def timesA2 : Expr V := .op2 (.arith .times) (.var a_) (.lit (.int 2))

/-- `a::3`  `b::a*2`  `a::"ab"`  `b::a*2` -/
def histStale : List Text :=
  [.expr (.assign a_ (.lit (.int 3))), .expr (.assign b_ timesA2),
   .expr (.assign a_ (.lit (.str [97, 98]))), .expr (.assign b_ timesA2)]

/-- `a::[1 2 3]`  `b::a`  `c::b:=9,0`  `a`  `a::[1 2 3]` -/
def histAmend : List Text :=
  [.expr (.assign a_ (.lit (.ints [1, 2, 3]))), .expr (.assign b_ (.var a_)),
   .expr (.assign c_ (.op2 .amend (.var b_) (.op2 .join (.lit (.int 9)) (.lit (.int 0))))),
   .expr (.var a_), .expr (.assign a_ (.lit (.ints [1, 2, 3])))]

/-- `a::5`  `.module(:m1)`  `a::5`  `.module(0)` -/
def histKey : List Text :=
  [.expr (.assign a_ (.lit (.int 5))), .module (some m1), .expr (.assign a_ (.lit (.int 5))), .module none]

def Cfg.amendMutant : Cfg := { Cfg.repaired with amendInPlace := true }
def Cfg.keyMutant : Cfg := { Cfg.repaired with keyModule := false }
def Cfg.noClearPinned : Cfg := { Cfg.pinned with clearOnAssign := false }
def Cfg.noClearRepaired : Cfg := { Cfg.repaired with clearOnAssign := false }
end Witness

open Witness

/-- **finding (pinned tree)**: a cached parse skips the `parse_module` side effect. In one
    interpreter `.module(:m1)` `.module(0)` `.module(:m1)` leaves the parse-time module unset
    at the third statement, and the definition that follows lands in the wrong place: the
    history is NOT indistinguishable from the cache-free machine. -/
theorem pinned_parse_cache_skips_module :
    Interp.trace Cfg.pinned parseQ Interp.init histModule ≠ Ref.trace parseQ Ref.init histModule := by
  decide +kernel

/-- the observable consequence: with the pinned cache `b::2` creates the global `b`, in a
    fresh (or repaired) interpreter it creates "b`m1" -/
example : ((Interp.trace Cfg.pinned parseQ Interp.init histModule).getLast?.map
      (fun o => ((snapshot o.2.s.frames).map (·.1), o.2.module))) =
    some ([⟨1, none⟩, ⟨7, none⟩, ⟨8, none⟩], none) := by decide +kernel
example : ((Interp.trace Cfg.repaired parseQ Interp.init histModule).getLast?.map
      (fun o => ((snapshot o.2.s.frames).map (·.1), o.2.module))) =
    some ([⟨1, some 8⟩, ⟨7, none⟩, ⟨8, none⟩], some 8) := by decide +kernel

/-- **finding (pinned tree)**: compiled code memoised on a shared node is trusted for ever.
    After `a` is rebound to a string the stale code runs Python's `str*int`: `b` becomes
    "abab" where a fresh interpreter raises. -/
theorem pinned_stale_compiled_code :
    Interp.trace Cfg.pinned parseQ Interp.init histStale ≠ Ref.trace parseQ Ref.init histStale := by
  decide +kernel

example : ((Interp.trace Cfg.pinned parseQ Interp.init histStale).map (·.1)).getLast? =
    some (.ok (.val (.str [97, 98, 97, 98]))) := by decide +kernel
example : ((Ref.trace parseQ Ref.init histStale).map (·.1)).getLast? = some .err := by decide +kernel
example : Interp.trace Cfg.repaired parseQ Interp.init histStale = Ref.trace parseQ Ref.init histStale := by
  decide +kernel

/-- **mutant**: Amend writing into its argument (no clone) is observable — through the alias
    `b::a` and through the array literal stored in the cached tree of `a::[1 2 3]`. -/
theorem mutant_amend_in_place_observable :
    Interp.trace Cfg.amendMutant parseQ Interp.init histAmend ≠ Ref.trace parseQ Ref.init histAmend := by
  decide +kernel

example : ((Interp.trace Cfg.amendMutant parseQ Interp.init histAmend).map (·.1)).getLast? =
    some (.ok (.val (.ints [9, 2, 3]))) := by decide +kernel

/-- **mutant**: the parse cache keyed by the text alone re-uses a tree parsed in another
    module (`a::5` inside `m1` assigns the global `a`). -/
theorem mutant_cache_keyed_by_text_observable :
    Interp.trace Cfg.keyMutant parseQ Interp.init histKey ≠ Ref.trace parseQ Ref.init histKey := by
  decide +kernel

/-- with the operand check at every call, whether `__setitem__` clears the compiled cache is
    unobservable (`Good` does not mention `clearOnAssign`) … -/
example : Cfg.noClearRepaired.Good := by decide
/-- … but on the pinned tree it is what keeps `a*2` at top level honest -/
example : Interp.trace Cfg.noClearPinned parseQ Interp.init
      [.expr (.assign a_ (.lit (.int 3))), .expr timesA2, .expr (.assign a_ (.lit (.str [97, 98]))), .expr timesA2] ≠
    Ref.trace parseQ Ref.init
      [.expr (.assign a_ (.lit (.int 3))), .expr timesA2, .expr (.assign a_ (.lit (.str [97, 98]))), .expr timesA2] := by
  decide +kernel

/-- non-vacuity of `no_verb_writes_its_argument` and `rerun_in_fresh_interpreter` -/
example : (Interp.step Cfg.pinned parseQ (Interp.run Cfg.pinned parseQ Interp.init (histViews.take 2)).1
      (.expr (.assign c_ (.op2 .amend (.var b_) (.op2 .join (.lit (.int 9)) (.lit (.int 0))))))).1.s.heap =
    [.base (.ints [9, 3, 4]), .base (.ints [9, 0])] ++ (Interp.run Cfg.pinned parseQ Interp.init (histViews.take 2)).1.s.heap := by
  decide +kernel

example : (Interp.stepObs Cfg.repaired parseQ (Interp.run Cfg.repaired parseQ Interp.init (histViews.take 5)).1
      (.expr (.call f_ (.var b_)))).2.1 = .ok (.val (.ints [2, 3, 4, 7, 7])) := by decide +kernel

end Klong.C04
