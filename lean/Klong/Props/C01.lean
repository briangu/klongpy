/-
  C01 — atomic dyads: numpy's classification of the operands is unobservable (one induction along
  `implA2`); dispatch: every verb of the reference names the function whose model is proved.
-/
import Klong.Model.C01
import Klong.Generated.C01Dispatch
namespace Klong.C01

/-! ## the equations of the atomic extension, by the form of the operands

Side conditions in the shape the cases of `refA2.mutual_induct` / `implA2.mutual_induct` provide.
The `_cons_eq_some` inversions and `refZip_length` are for C01Ext4 (Format2, along `refA2`). -/

theorem refA2_list_list (f : Val → Val → Option Val) (xs ys : List Val) :
    refA2 f (.list xs) (.list ys) = (refZip f xs ys).map .list :=
  refA2.eq_1 f xs ys

theorem refA2_list_left (f : Val → Val → Option Val) (xs : List Val) {b : Val}
    (hb : ∀ ys, b ≠ .list ys) : refA2 f (.list xs) b = (refMapL f xs b).map .list :=
  refA2.eq_2 f b xs hb

theorem refA2_list_right (f : Val → Val → Option Val) {a : Val} (ys : List Val)
    (ha : ∀ xs, a ≠ .list xs) : refA2 f a (.list ys) = (refMapR f a ys).map .list :=
  refA2.eq_3 f a ys ha

theorem refA2_atom (f : Val → Val → Option Val) {a b : Val}
    (ha : ∀ xs, a ≠ .list xs) (hb : ∀ ys, b ≠ .list ys) : refA2 f a b = f a b :=
  refA2.eq_4 f a b ha hb fun xs _ h _ => ha xs h

theorem implA2_list_list (f : Val → Val → Option Val) (xs ys : List Val) :
    implA2 f (.list xs) (.list ys) =
      match asNums xs, asNums ys with
      | some is, some js => (zipNums f is js).map .list
      | _, _ => (implZip f xs ys).map .list :=
  implA2.eq_1 f xs ys

theorem implA2_list_left (f : Val → Val → Option Val) (xs : List Val) {b : Val}
    (hb : ∀ ys, b ≠ .list ys) : implA2 f (.list xs) b = (implMapL f xs b).map .list :=
  implA2.eq_2 f b xs hb

theorem implA2_list_right (f : Val → Val → Option Val) {a : Val} (ys : List Val)
    (ha : ∀ xs, a ≠ .list xs) : implA2 f a (.list ys) = (implMapR f a ys).map .list :=
  implA2.eq_3 f a ys ha

theorem implA2_atom (f : Val → Val → Option Val) {a b : Val}
    (ha : ∀ xs, a ≠ .list xs) (hb : ∀ ys, b ≠ .list ys) : implA2 f a b = f a b :=
  implA2.eq_4 f a b ha hb fun xs _ h _ => ha xs h

theorem bind_cons_eq_some {α} {o : Option α} {os : Option (List α)} {vs : List α}
    (h : (do let r ← o; let rs ← os; pure (r :: rs)) = some vs) :
    ∃ r rs, o = some r ∧ os = some rs ∧ vs = r :: rs := by
  cases o <;> cases os <;> simp_all

theorem refZip_cons_eq_some {f : Val → Val → Option Val} {x y : Val} {xs ys vs : List Val}
    (h : refZip f (x :: xs) (y :: ys) = some vs) :
    ∃ r rs, refA2 f x y = some r ∧ refZip f xs ys = some rs ∧ vs = r :: rs := by
  rw [refZip] at h
  exact bind_cons_eq_some h

theorem refMapL_cons_eq_some {f : Val → Val → Option Val} {x b : Val} {xs vs : List Val}
    (h : refMapL f (x :: xs) b = some vs) :
    ∃ r rs, refA2 f x b = some r ∧ refMapL f xs b = some rs ∧ vs = r :: rs := by
  rw [refMapL] at h
  exact bind_cons_eq_some h

theorem refMapR_cons_eq_some {f : Val → Val → Option Val} {a y : Val} {ys vs : List Val}
    (h : refMapR f a (y :: ys) = some vs) :
    ∃ r rs, refA2 f a y = some r ∧ refMapR f a ys = some rs ∧ vs = r :: rs := by
  rw [refMapR] at h
  exact bind_cons_eq_some h

theorem refZip_length (f : Val → Val → Option Val) : ∀ (xs ys vs : List Val),
    refZip f xs ys = some vs → xs.length = ys.length
  | [], [], _, _ => rfl
  | [], _ :: _, _, h | _ :: _, [], _, h => by simp [refZip] at h
  | x :: xs, y :: ys, vs, h => by
    obtain ⟨_, rs, _, hrs, _⟩ := refZip_cons_eq_some h
    simp [refZip_length f xs ys rs hrs]

/-! ## atomic dyads -/

theorem asNums_eq {xs is : List Val} (h : asNums xs = some is) :
    is = xs ∧ ∀ x ∈ xs, x.isNum = true := by
  induction xs generalizing is with
  | nil =>
    cases h
    exact ⟨rfl, nofun⟩
  | cons x xs ih =>
    rw [asNums] at h
    split at h
    next hx =>
      obtain ⟨r, hr, rfl⟩ := Option.map_eq_some_iff.mp h
      obtain ⟨rfl, h2⟩ := ih hr
      exact ⟨rfl, List.forall_mem_cons.mpr ⟨hx, h2⟩⟩
    next => cases h

theorem ne_list_of_isNum {x : Val} (hx : x.isNum = true) (xs : List Val) : x ≠ .list xs := by
  rintro rfl
  cases hx

theorem zipNums_eq_refZip (f : Val → Val → Option Val) {xs ys : List Val}
    (hx : ∀ x ∈ xs, x.isNum = true) (hy : ∀ y ∈ ys, y.isNum = true) :
    zipNums f xs ys = refZip f xs ys := by
  induction xs generalizing ys with
  | nil => cases ys <;> simp [zipNums, refZip]
  | cons x xs ih =>
    cases ys with
    | nil => simp [zipNums, refZip]
    | cons y ys =>
      rw [List.forall_mem_cons] at hx hy
      rw [zipNums, refZip, refA2_atom f (ne_list_of_isNum hx.1) (ne_list_of_isNum hy.1),
        ih hx.2 hy.2]

/-- **atomic_dyad_correct**: for every scalar function `f` and operands of ANY nesting depth
    and any mixture of homogeneous and object sub-arrays, the numpy-classified evaluation
    (flat vector fast path / element-wise recursion) equals the reference's atomic extension. -/
theorem atomic_dyad_correct (f : Val → Val → Option Val) :
    (∀ a b, implA2 f a b = refA2 f a b) ∧ (∀ a ys, implMapR f a ys = refMapR f a ys) ∧
    (∀ xs b, implMapL f xs b = refMapL f xs b) ∧ (∀ xs ys, implZip f xs ys = refZip f xs ys) := by
  apply implA2.mutual_induct
  case case1 =>
    -- both flat vectors of numbers: one ufunc call, and on numbers the extension is `f` itself
    intro xs ys is js hj hi
    obtain ⟨rfl, n1⟩ := asNums_eq hi
    obtain ⟨rfl, n2⟩ := asNums_eq hj
    rw [implA2_list_list, hi, hj, refA2_list_list, ← zipNums_eq_refZip f n1 n2]
  case case2 =>
    -- not both flat vectors of numbers (`hno`): the element-wise branch
    intro xs ys hno ih
    rw [implA2_list_list, refA2_list_list, ← ih]
    split
    · rename_i is js h1 h2
      exact (hno is js h1 h2).elim
    · rfl
  case case3 =>
    intro xs b hb ih
    rw [implA2_list_left f xs hb, refA2_list_left f xs hb, ih]
  case case4 =>
    intro a ys ha ih
    rw [implA2_list_right f ys ha, refA2_list_right f ys ha, ih]
  case case5 =>
    intro a b _ ha hb
    rw [implA2_atom f ha hb, refA2_atom f ha hb]
  case case6 =>
    intro x
    rw [implMapR, refMapR]
  case case7 =>
    intro a y ys h1 h2
    rw [implMapR, refMapR, h1, h2]
  case case8 =>
    intro x
    rw [implMapL, refMapL]
  case case9 =>
    intro x xs b h1 h2
    rw [implMapL, refMapL, h1, h2]
  case case10 => rw [implZip, refZip]
  case case11 =>
    intro x xs y ys h1 h2
    rw [implZip, refZip, h1, h2]
  case case12 =>
    -- the catch-all of `implZip`: neither both empty (`h1`) nor both non-empty (`h2`)
    intro xs ys h1 h2
    match xs, ys with
    | [], [] => exact (h1 rfl rfl).elim
    | _ :: _, _ :: _ => exact (h2 _ _ _ _ rfl rfl).elim
    | [], _ :: _ | _ :: _, [] => simp [implZip, refZip]

theorem implA2_eq_refA2 (f : Val → Val → Option Val) : implA2 f = refA2 f :=
  funext fun a => funext fun b => (atomic_dyad_correct f).1 a b

/-- `dyadRes` answers `.unmodelled` on the rank-mismatch class: there numpy broadcasts, which
    `implA2` does not model.  Outside it the model's answer is the reference's. -/
theorem dyad_in_model_correct (f : Val → Val → Option Val) (a b : Val)
    (h : anyRankMismatch a b = false) :
    dyadRes f a b = match refA2 f a b with | some v => .ok v | none => .err := by
  simp only [dyadRes, h, implA2_eq_refA2]
  rfl

/-- witness that the excluded class is real: numpy broadcasts [[1 2] [3 4]] + [10 20] along the
    trailing axis, the reference extends the atom 10 over the first row -/
example : anyRankMismatch (.list [.list [.int 1, .int 2], .list [.int 3, .int 4]])
    (.list [.int 10, .int 20]) = true := by decide

/-- an object array against a flat vector is no mismatch: `vec_fn2` recurses element-wise -/
example : anyRankMismatch (.list [.int 1, .list [.int 2, .int 3]]) (.list [.int 10, .int 20]) = false := by
  decide

/-- **atomic_monad_correct**: Negate through any nesting depth.  The model of `eval_monad_negate`
    is the atomic extension `refA1` of scalar negation, the reference's own, so the two sides
    unfold to the same term. -/
theorem atomic_monad_correct (a : Val) :
    implMonad "-" a = match refMonad "-" a with | some v => .ok v | none => .err :=
  rfl

/-! ## dispatch

The verbs of the reference manual, each with the function it has a model of.  Left out of the
generated tables: Define `::` (it assigns; C01 is about values) and `:>` `∂` `∇` `˙` (klongpy's
autograd additions, not in the Klong reference). -/

def expectedDyads : List (String × String) :=
  [("+", "eval_dyad_add"), ("-", "eval_dyad_subtract"), ("*", "eval_dyad_multiply"),
   ("&", "eval_dyad_minimum"), ("|", "eval_dyad_maximum"), ("<", "eval_dyad_less"),
   (">", "eval_dyad_more"), ("=", "eval_dyad_equal"), ("!", "eval_dyad_remainder"),
   (":%", "eval_dyad_integer_divide"), ("#", "eval_dyad_take"), ("_", "eval_dyad_drop"),
   (":+", "eval_dyad_rotate"), (":#", "eval_dyad_split"), (":_", "eval_dyad_cut"),
   ("~", "eval_dyad_match"), ("%", "eval_dyad_divide"), ("^", "eval_dyad_power"),
   (",", "eval_dyad_join"), ("@", "eval_dyad_at_index"), ("?", "eval_dyad_find"),
   (":=", "eval_dyad_amend"), (":-", "eval_dyad_amend_in_depth"), (":^", "eval_dyad_reshape"),
   (":@", "eval_dyad_index_in_depth"), ("$", "eval_dyad_format2"), (":$", "eval_dyad_form")]

def expectedMonads : List (String × String) :=
  [("-", "eval_monad_negate"), ("|", "eval_monad_reverse"), ("*", "eval_monad_first"),
   ("#", "eval_monad_size"), ("!", "eval_monad_enumerate"), ("&", "eval_monad_expand_where"),
   ("?", "eval_monad_range"), ("=", "eval_monad_groupby"), ("@", "eval_monad_atom"),
   (",", "eval_monad_list"), ("<", "eval_monad_grade_up"), (">", "eval_monad_grade_down"),
   ("^", "eval_monad_shape"), ("+", "eval_monad_transpose"), ("_", "eval_monad_floor"),
   ("%", "eval_monad_reciprocal"), ("~", "eval_monad_not"), ("$", "eval_monad_format"),
   (":#", "eval_monad_char"), (":_", "eval_monad_undefined")]

/-- over the tables regenerated from /repo on every run -/
theorem dispatch_covers_reference :
    (expectedDyads.all fun p => Generated.dyadTable.lookup p.1 == some p.2) = true ∧
    (expectedMonads.all fun p => Generated.monadTable.lookup p.1 == some p.2) = true := by
  decide +kernel

end Klong.C01
