/-
  C12 — `kg_read` / `read_list`, the mutually recursive part of the lexer (`lexer_spec`): with fuel
  `8*(|t|+1-i)+rank` they never spin or run out of fuel, return `None` only at the end of the text
  and a token only after progress, in steps linear in the distance.
-/
import Klong.Props.C12Sat
namespace Klong.C12

/-- `kgRead` started at `i`: `None` at the end of the text within `i' - i + 1` steps, or a token
    after progress within `8 * (i' - i) - 4`.  The bounds of this file avoid truncated subtraction
    (`q + 8 * i ≤ 8 * i' + c` for `q ≤ 8 * (i' - i) + c`), on which `omega` would split. -/
def KG (n i : Nat) : Nat → Node → Nat → Prop := fun i' v q =>
  i ≤ i' ∧ i' ≤ n + 1 ∧
    ((v.isNone = true ∧ n ≤ i' ∧ q + i ≤ i' + 1) ∨
      (v.isNone = false ∧ i < i' ∧ q + 4 + 8 * i ≤ 8 * i'))

/-- `h` (here and in `KG.eof`) is one conjunction so that a single `by omega` at the call supplies
    it -/
theorem KG.token {n i i' q : Nat} {v : Node} (hv : v.isNone = false)
    (h : i < i' ∧ i' ≤ n + 1 ∧ q + 4 + 8 * i ≤ 8 * i') : KG n i i' v q :=
  ⟨Nat.le_of_lt h.1, h.2.1, .inr ⟨hv, h.1, h.2.2⟩⟩

theorem KG.eof {n i i' q : Nat} {v : Node} (hv : v.isNone = true)
    (h : i ≤ i' ∧ i' ≤ n + 1 ∧ n ≤ i' ∧ q + i ≤ i' + 1) : KG n i i' v q :=
  ⟨h.1, h.2.1, .inl ⟨hv, h.2.2⟩⟩

/-- `kg_read` dispatches on the character in the text, but reads a newline as the punctuation `;` -/
theorem tokenChar_eq {c : Char}
    (h : ¬puncts.contains (if (c == '\n') = true then ';' else c) = true) :
    (if (c == '\n') = true then ';' else c) = c := by
  split at h
  · exact absurd (by decide) h
  · exact if_neg ‹_›

/-- `q ≤ 8 * (n + 1 - i) + c` -/
def ErrWithin (n i c : Nat) : Nat → Prop := fun q => q + 8 * i ≤ 8 * (n + 1) + c

/-- `readList` (`c = 2`), `readListLoop` (`c = 1`): inside the text, `q ≤ 8 * (i' - i) + c` -/
def ListWithin (n i c : Nat) : Nat → List Node → Nat → Prop := fun i' _ q =>
  i ≤ i' ∧ i' ≤ n + 1 ∧ q + 8 * i ≤ 8 * i' + c

/-- The fuel hypotheses are `need t.length i r ≤ fuel` without subtraction, with ranks 1 for
    `kgRead`, 3 for `readList`, 2 for `readListLoop`: `readList` calls `readListLoop`, which calls
    `kgRead`, possibly at the same index; `kgRead` calls `readList` (or itself) only after reading a
    character. -/
theorem lexer_spec (cfg : Cfg) (t : Text) : ∀ fuel : Nat,
    (∀ i rn ign m, i ≤ t.length + 1 → 8 * (t.length + 1) + 1 ≤ fuel + 8 * i →
        SatW 1 (KG t.length i) (ErrWithin t.length i 2) (kgRead cfg t fuel i rn ign m)) ∧
    (∀ d i m, i ≤ t.length + 1 → 8 * (t.length + 1) + 3 ≤ fuel + 8 * i →
        SatW 1 (ListWithin t.length i 2) (ErrWithin t.length i 3) (readList cfg t fuel d i m)) ∧
    (∀ d i acc m, i ≤ t.length + 1 → 8 * (t.length + 1) + 2 ≤ fuel + 8 * i →
        SatW 1 (ListWithin t.length i 1) (ErrWithin t.length i 2)
          (readListLoop cfg t fuel d i acc m)) := by
  -- `omega` is to see the bounds themselves
  unfold ErrWithin ListWithin
  intro fuel
  -- strong induction: `fun_cases` needs `fuel` to be a variable (its cases supply `fuel = _ + 1`;
  -- given `fuel + 1` it generalises the goal and the induction hypothesis no longer fits)
  induction fuel using Nat.strongRecOn with | ind fuel ih => ?_
  refine ⟨fun i0 rn ign m hi hf => ?_, fun d i0 m hi hf => ?_, fun d i acc m hi hf => ?_⟩
  · -- `kgRead` reads from `skip cfg t i0 ign` on; its branches in the order of its text: 1 no fuel,
    -- 2 end of the text, 3 punctuation, 4 `0c` at the end of the text, 5 `0cX`, 6 a number, 7 one
    -- that `float()`/`int()` reject, 8 a string, 9 unreachable, 10 `:name`, 11 `:` before a number
    -- or a string (the token after the colon), 12 `:{`, 13 `:[`, 14 `:|`, 15 `:` before any other
    -- character, 16 `[`, 17 a symbol, 18 an operator
    have hs := skip_le cfg ign hi
    fun_cases kgRead cfg t fuel i0 rn ign m
    case case1 => omega
    case case2 =>
      have := List.getElem?_eq_none_iff.mp ‹t[_]? = none›
      exact satW1_ok (.eof rfl (by omega))
    all_goals have hlt := (List.getElem?_eq_some_iff.mp ‹t[skip cfg t i0 ign]? = some _›).1
    all_goals obtain ⟨ihK, ihL, -⟩ := ih _ (Nat.lt_succ_self _)
    -- one or two characters read; 9 (`:` with `i + 1 < |t|` and yet no character after it) returns
    -- `i + 2` like 13 to 15
    case case3 | case9 | case13 | case14 | case15 => exact satW1_ok (.token rfl (by omega))
    case case4 =>
      have := cmatch2_lt ‹cmatch2 t _ '0' 'c' = true›
      exact satW1_err (by omega)
    case case5 =>
      have := cmatch2_lt ‹cmatch2 t _ '0' 'c' = true›
      exact satW1_ok (.token rfl (by omega))
    case case6 =>
      obtain ⟨h1, h2, h3⟩ := readNum_spec ‹readNum cfg t _ = (_, some _)›
      obtain ⟨hp, hv⟩ := h3 _ rfl
      exact satW1_ok (.token hv (by omega))
    case case7 =>
      obtain ⟨h1, h2, -⟩ := readNum_spec ‹readNum cfg t _ = (_, none)›
      exact satW1_err (by omega)
    case case8 =>
      have hb := readString_bounds t (skip cfg t i0 ign + 1)
      rw [‹readString t _ = _›] at hb
      exact satW1_ok (.token rfl (by omega))
    case case10 =>
      have hb := readSym_spec cfg t (skip cfg t i0 ign + 1) m
      rw [‹readSym cfg t _ m = _›] at hb
      obtain ⟨h1, h2, hv⟩ := hb
      exact satW1_ok (.token hv (by omega))
    case case11 =>
      refine satW1_tail (ihK (skip cfg t i0 ign + 1) false ign m (by omega) (by omega)) ?_
        (fun q h => by omega)
      intro i' v q h
      obtain ⟨h1, h2, ⟨hv, h3, h4⟩ | ⟨hv, h3, h4⟩⟩ := h
      · exact .eof hv (by omega)
      · exact .token hv (by omega)
    case case12 =>
      refine satW_bind (ihL '}' (skip cfg t i0 ign + 2) m (by omega) (by omega))
        (fun q h => by omega) ?_
      intro i' d m' q1 h
      split
      · exact satW1_err (by omega)
      · exact satW1_ok (.token rfl (by omega))
    case case16 =>
      refine satW_bind (ihL ']' (skip cfg t i0 ign + 1) m (by omega) (by omega))
        (fun q h => by omega) ?_
      intro i' d m' q1 h
      exact satW1_ok (.token rfl (by omega))
    case case17 =>
      have hsym : isSymbolic cfg (if _ then ';' else _) = true := ‹isSymbolic cfg _ = true›
      rw [tokenChar_eq ‹¬puncts.contains _ = true›] at hsym
      have hb := readSym_spec cfg t (skip cfg t i0 ign) m
      have hp := readSym_progress m ‹t[skip cfg t i0 ign]? = some _› hsym
      rw [‹readSym cfg t _ m = _›] at hb hp
      obtain ⟨h1, h2, hv⟩ := hb
      exact satW1_ok (.token hv (by omega))
    case case18 =>
      have hb := readOp_spec hlt
      rw [‹readOp t _ = _›] at hb
      obtain ⟨h1, h2, hv⟩ := hb
      exact satW1_ok (.token hv (by omega))
  · have hs := skip_le cfg true hi
    fun_cases readList cfg t fuel d i0 m
    · omega
    · obtain ⟨-, -, ihLL⟩ := ih _ (Nat.lt_succ_self _)
      exact satW1_tail (ihLL d _ [] m (by omega) (by omega))
        (fun i' v q h => by omega) (fun q h => by omega)
  -- `readListLoop`: no fuel; an element is read (`None`, the end of the text; a token, so progress
  -- and round again); at the closing character or the end of the text
  · fun_cases readListLoop cfg t fuel d i acc m
    · omega
    · rename_i hc
      simp only [Bool.and_eq_true, Bool.not_eq_true', decide_eq_true_eq] at hc
      obtain ⟨ihK, -, ihLL⟩ := ih _ (Nat.lt_succ_self _)
      refine satW_bind (ihK i true true m (by omega) (by omega)) (fun q h => by omega) ?_
      intro i1 q m1 q1 h
      obtain ⟨h1, h2, ⟨hv, h3, h4⟩ | ⟨hv, h3, h4⟩⟩ := h
      · rw [if_pos hv]
        have := cmatch_step d h2
        exact satW1_ok (by omega)
      · have hs := skip_le cfg true h2
        rw [if_neg (by simp [hv]), if_pos (by omega)]
        exact satW1_tail (ihLL d _ (q :: acc) m1 (by omega) (by omega))
          (fun i' v q' h' => by omega) (fun q' h' => by omega)
    · have := cmatch_step d hi
      exact satW1_ok (by omega)

/-- what a caller of `kg_read` uses of `KG`, the cost bounded by `b` -/
def KU (n i b : Nat) : Nat → Node → Nat → Prop := fun i' v q =>
  i ≤ i' ∧ i' ≤ n + 1 ∧ (v.isNone = true → n ≤ i') ∧ (v.isNone = false → i < i') ∧ q ≤ b

theorem kgRead_sat (cfg : Cfg) (t : Text) (fuel i : Nat) (rn ign : Bool) (m : PState)
    (hi : i ≤ t.length + 1) (hf : need t.length i 1 ≤ fuel) :
    SatW 1 (KU t.length i (8 * (t.length + 1 - i) + 2)) (fun q => q ≤ 8 * (t.length + 1 - i) + 2)
      (kgRead cfg t fuel i rn ign m) := by
  unfold need at hf
  have h := (lexer_spec cfg t fuel).1 i rn ign m hi (by omega)
  unfold ErrWithin at h
  refine satW_mono h ?_ fun _ h => by omega
  rintro i' v q ⟨h1, h2, ⟨hv, h3, h4⟩ | ⟨hv, h3, h4⟩⟩
  · exact ⟨h1, h2, fun _ => h3, fun e => absurd (hv.symm.trans e) (by decide), by omega⟩
  · exact ⟨h1, h2, fun e => absurd (hv.symm.trans e) (by decide), fun _ => h3, by omega⟩

end Klong.C12
