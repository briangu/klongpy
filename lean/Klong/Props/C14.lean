/-
  C14 — the `IpcClient` transition system (Klong/Model/C14.lean).
  `step` is inverted once into the relation `Trans`; each invariant is preserved by `Trans`, on top
  of a lemma `move` for "call `c` goes to phase `q`", and `run_induct` lifts it to every schedule.
  Every theorem quantifies over ALL schedules (`run` skips labels that are not enabled, so a
  schedule is an arbitrary list of labels) and any number of calls.
-/
import Klong.Model.C14
namespace Klong.C14
open Klong.Wire

theorem outcomeOf_ok {f : Fut} {r : Bytes} (h : outcomeOf f = some (.ok r)) : f = .res r := by
  cases f <;> simp [outcomeOf] at h ⊢
  exact h

theorem outcomeOf_some_iff {f : Fut} : (outcomeOf f).isSome = true ↔ f ≠ .unres := by
  cases f <;> simp [outcomeOf]

theorem nodup_snoc {α} {l : List α} {a : α} (h : l.Nodup) (ha : a ∉ l) : (l ++ [a]).Nodup :=
  List.nodup_append.2
    ⟨h, by simp, fun _ hx _ hy => List.mem_singleton.1 hy ▸ ne_of_mem_of_not_mem hx ha⟩

theorem fst_nodup_unique {l : List (Nat × Bytes)} (h : (l.map (·.1)).Nodup) {a : Nat} {b b' : Bytes}
    (h1 : (a, b) ∈ l) (h2 : (a, b') ∈ l) : b = b' :=
  have p := List.pairwise_map.1 h
  (Prod.mk.inj (List.Pairwise.forall_of_forall_of_flip (R := fun x y => x.1 = y.1 → x = y)
    (fun _ _ _ => rfl) (p.imp fun n e => absurd e n) (p.imp fun n e => absurd e.symm n) h1 h2 rfl)).2

theorem upd_apply (f : Nat → Call) (c k : Nat) (v : Call) :
    upd f c v k = if k = c then v else f k := rfl

theorem setPhase_phase (s : St) (c k : Nat) (p : Phase) :
    ((s.setPhase c p).calls k).phase = if k = c then p else (s.calls k).phase := by
  simp only [St.setPhase, upd_apply]
  split <;> simp [*]

theorem setPhase_fut (s : St) (c k : Nat) (p : Phase) :
    ((s.setPhase c p).calls k).fut = (s.calls k).fut := by
  simp only [St.setPhase, upd_apply]
  split <;> simp [*]

theorem setFut_phase (s : St) (c k : Nat) (x : Fut) :
    ((s.setFut c x).calls k).phase = (s.calls k).phase := by
  simp only [St.setFut, upd_apply]
  split <;> simp [*]

theorem setFut_fut (s : St) (c k : Nat) (x : Fut) :
    ((s.setFut c x).calls k).fut = if k = c then x else (s.calls k).fut := by
  simp only [St.setFut, upd_apply]
  split <;> simp [*]

theorem setFut_lst (s : St) (c : Nat) (x : Fut) : (s.setFut c x).lst = s.lst := rfl

theorem finish_eq (s : St) (c : Nat) (o : Outcome) :
    s.finish c o = { s.setPhase c (.done o) with
      pending := if s.variant = .fixed then s.pending.erase c else s.pending } := by
  cases hv : s.variant <;> simp [St.finish, St.setPhase, hv]

theorem lexit_eq (s : St) (e : Exc) :
    s.lexit e = { s with writer := false, lst := if s.variant = .fixed then .snapped e s.pending
                                                  else .iterating e s.pending s.pending.length } := by
  cases hv : s.variant <;> simp [St.lexit, hv]

theorem lexit_delivered (s : St) (e : Exc) : (s.lexit e).delivered = s.delivered := by
  rw [lexit_eq]

/-! ## the relation `Trans` -/

/-- `t` differs from `s` only in what no invariant reads, in a larger `n` and in frames appended to
    the outbox -/
structure Env (s t : St) : Prop where
  variant : t.variant = s.variant
  calls : t.calls = s.calls
  n : s.n ≤ t.n
  pending : t.pending = s.pending
  writer : t.writer = s.writer
  lst : t.lst = s.lst
  delivered : t.delivered = s.delivered
  sentReqs : t.sentReqs = s.sentReqs
  outbox : s.outbox ⊆ t.outbox

theorem Env.update {s : St} {n inbuf eof inErr provOpen wrBroken running serving outbox}
    (hn : s.n ≤ n) (h : s.outbox ⊆ outbox) :
    Env s { s with n, inbuf, eof, inErr, provOpen, wrBroken, running, serving, outbox } :=
  ⟨rfl, rfl, hn, rfl, rfl, rfl, rfl, rfl, h⟩

theorem Env.update_same {s : St} {inbuf eof inErr provOpen wrBroken running serving} :
    Env s { s with inbuf, eof, inErr, provOpen, wrBroken, running, serving } :=
  .update (Nat.le_refl _) (List.Subset.refl _)

/-- the listener leaves (`_run`'s `finally`) and the steps of `_cleanup_pending_responses` -/
inductive Cleanup : St → St → Prop
  | lexit {s e} : s.lst = .listening → Cleanup s (s.lexit e)
  | clr {s e items} : s.lst = .snapped e items → Cleanup s { s with pending := [], lst := .failing e items }
  | crash {s e todo n} : s.lst = .iterating e todo n → Cleanup s { s with lst := .crashed }
  | iterDone {s e n} : s.lst = .iterating e [] n → Cleanup s { s with pending := [], lst := .exited }
  | iterFail {s e c rest n} : s.lst = .iterating e (c :: rest) n → (s.calls c).fut = .unres →
      Cleanup s { s.setFut c (.failed e) with lst := .iterating e rest n }
  | failDone {s e} : s.lst = .failing e [] → Cleanup s { s with lst := .exited }
  | failStep {s e c rest} : s.lst = .failing e (c :: rest) → (s.calls c).fut = .unres →
      Cleanup s { s.setFut c (.failed e) with lst := .failing e rest }
  | failSkip {s e c rest} : s.lst = .failing e (c :: rest) → (s.calls c).fut ≠ .unres →
      Cleanup s { s with lst := .failing e rest }

/-- the moves of a caller that change its phase and nothing else -/
inductive Edge : Phase → Phase → Prop
  | checked : Edge .idle .checked
  | noop : Edge .idle (.done .noop)
  | notOpen : Edge .idle (.done .notOpen)
  | submit : Edge .registered .submitted
  | drain : Edge .sent .waiting

/-- Every step is one of these moves or a sequence of them: a `recv` that answers a close request is
    an `answer` followed by the listener's exit.  The label is recorded only where a lemma needs it:
    `answer` happens under `recv` alone, so no other label writes `delivered`. -/
inductive Trans : St → Label → St → Prop
  | env {s l t} : Env s t → Trans s l t
  | comp {s l t u} : Trans s l t → Trans t l u → Trans s l u
  | move {s l c p q} : (s.calls c).phase = p → Edge p q → (p = .idle → c < s.n) →
      Trans s l (s.setPhase c q)
  | reg {s l c} : (s.calls c).phase = .checked →
      Trans s l { s.setPhase c .registered with pending := s.pending ++ [c] }
  | send {s l c} : (s.calls c).phase = .submitted → s.writer = true →
      Trans s l { s.setPhase c .sent with outbox := s.outbox ++ [(c, [])], sentReqs := s.sentReqs ++ [c] }
  | finish {s l c o} : blocked (s.calls c).phase = true → s.lst.cleaning = false →
      o = .sendErr ∨ (s.calls c).phase = .waiting ∧ outcomeOf (s.calls c).fut = some o →
      Trans s l { s.setPhase c (.done o) with
        pending := if s.variant = .fixed then s.pending.erase c else s.pending }
  | answer {s id body} : s.lst = .listening → id ∈ s.pending →
      Trans s .recv { s.setFut id (.res body) with
        pending := s.pending.erase id, delivered := s.delivered ++ [(id, body)] }
  | cleanup {s l t} : Cleanup s t → Trans s l t

theorem Trans.exit {s t : St} {l : Label} {e : Exc} (he : Env s t) (hl : s.lst = .listening) :
    Trans s l (t.lexit e) :=
  (Trans.env he).comp (.cleanup (.lexit (he.lst.trans hl)))

/-- the listener answers a pending call or nobody (state `a`), consumes its input (state `t`), and
    then goes on listening or leaves -/
theorem recv_cases {s s' : St} (h : step s .recv = some s') :
    s.lst = .listening ∧
    ∃ a, (a = s ∨ ∃ id body rest, decodeFrame s.inbuf = some (id, body, rest) ∧ id ∈ s.pending ∧
        a = { s.setFut id (.res body) with
              pending := s.pending.erase id, delivered := s.delivered ++ [(id, body)] }) ∧
      ∃ t, Env a t ∧ (s' = t ∨ ∃ e, s' = t.lexit e) := by
  simp only [step, Option.ite_none_right_eq_some] at h
  obtain ⟨⟨hl, -⟩, h⟩ := h
  refine ⟨hl, ?_⟩
  -- the arms of `recv` in the order of `step`: the transport failed (the listener leaves); no
  -- complete frame (at end of input it leaves, otherwise there is no step); a frame that answers a
  -- pending call (the answer to a close request ends the listener, any other does not); the peer
  -- asks to close (with a broken writer the listener is lost, else it acknowledges); a push request
  split at h
  · cases h
    exact ⟨s, .inl rfl, s, .update_same, .inr ⟨_, rfl⟩⟩
  · split at h
    · simp only [Option.ite_none_right_eq_some] at h
      cases h.2
      exact ⟨s, .inl rfl, s, .update_same, .inr ⟨_, rfl⟩⟩
    · rename_i id body rest hd
      split at h
      · rename_i hm
        refine ⟨_, .inr ⟨id, body, rest, hd, hm, rfl⟩, ?_⟩
        split at h
        · cases h
          exact ⟨_, .update_same (inbuf := rest) (running := false), .inr ⟨_, rfl⟩⟩
        · cases h
          exact ⟨_, .update_same (inbuf := rest), .inl rfl⟩
      · refine ⟨s, .inl rfl, ?_⟩
        split at h
        · split at h
          · cases h
            exact ⟨_, .update_same (inbuf := rest), .inr ⟨_, rfl⟩⟩
          · cases h
            exact ⟨_, .update (inbuf := rest) (running := false) (Nat.le_refl _)
              (List.subset_append_left ..), .inr ⟨_, rfl⟩⟩
        · cases h
          exact ⟨_, .update_same (inbuf := rest), .inl rfl⟩

theorem step_trans {s s' : St} {l : Label} (h : step s l = some s') : Trans s l s' := by
  cases l
  case recv =>
    obtain ⟨hl, a, ha, t, he, hs⟩ := recv_cases h
    have x : Trans s .recv a ∧ a.lst = .listening := by
      rcases ha with rfl | ⟨id, body, rest, -, hm, rfl⟩
      · exact ⟨.env .update_same, hl⟩
      · exact ⟨.answer hl hm, hl⟩
    rcases hs with rfl | ⟨e, rfl⟩
    · exact x.1.comp (.env he)
    · exact x.1.comp (.exit he x.2)
  all_goals simp only [step, Option.ite_none_right_eq_some, Option.ite_none_left_eq_some,
    Bool.and_eq_true, decide_eq_true_eq, Bool.not_eq_true'] at h
  case check c close =>
    obtain ⟨hp, h⟩ := h
    -- the call is counted in `n`, then it leaves `idle`
    have m {q} (x : Edge .idle q) : Trans s (.check c close) ({ s with n := max s.n (c + 1) }.setPhase c q) :=
      (Trans.env (.update (Nat.le_max_left ..) (List.Subset.refl _))).comp
        (.move hp x fun _ => Nat.lt_of_lt_of_le c.lt_succ_self (Nat.le_max_right ..))
    split at h
    · cases h
      exact m .noop
    · split at h
      · cases h
        exact m .checked
      · cases h
        exact m .notOpen
  case reg c =>
    cases h.2
    exact .reg h.1
  case submit c =>
    cases h.2
    exact .move h.1 .submit nofun
  case send c =>
    obtain ⟨⟨hp, hc⟩, h⟩ := h
    split at h
    · rename_i hw
      cases h
      exact .send hp hw
    · cases h
      rw [finish_eq]
      exact .finish (by simp [hp, blocked]) hc (.inl rfl)
  case drain c =>
    obtain ⟨⟨hp, hc⟩, h⟩ := h
    split at h
    · cases h
      rw [finish_eq]
      exact .finish (by simp [hp, blocked]) hc (.inl rfl)
    · cases h
      exact .move hp .drain nofun
  case deliver c =>
    obtain ⟨⟨hp, hc⟩, h⟩ := h
    split at h
    · rename_i o ho
      cases h
      rw [finish_eq]
      exact .finish (by simp [hp, blocked]) hc (.inr ⟨hp, ho⟩)
    · cases h
  case served =>
    -- a request is being served and the client listens (else no step); then, in the order of `step`:
    -- its evaluation raised, sending the result failed (the listener is lost), the result is sent
    split at h
    · simp only [Option.ite_none_right_eq_some] at h
      obtain ⟨hl, h⟩ := h
      split at h
      · cases h
        exact .exit (.update_same (serving := none)) hl
      · split at h
        · cases h
          exact .exit (.update_same (serving := none)) hl
        · cases h
          exact .env (.update (Nat.le_refl _) (List.subset_append_left ..))
    · cases h
  case clr =>
    split at h
    · rename_i hl
      cases h
      exact .cleanup (.clr hl)
    · cases h
  case cl =>
    -- the pinned loop (`iterating`): the table changed size, the iterator is exhausted, the next
    -- future is unresolved and is failed, or it is resolved already (`InvalidStateError`);
    -- the repaired loop (`failing`): the list is empty, the next future is failed, or it is skipped
    split at h
    · rename_i e todo n hl
      split at h
      · cases h
        exact .cleanup (.crash hl)
      · split at h
        · cases h
          exact .cleanup (.iterDone hl)
        · split at h
          · rename_i hf
            cases h
            exact .cleanup (.iterFail hl hf)
          · cases h
            exact .cleanup (.crash hl)
    · rename_i e items hl
      split at h
      · cases h
        exact .cleanup (.failDone hl)
      · split at h
        · rename_i hf
          cases h
          exact .cleanup (.failStep hl hf)
        · rename_i hf
          cases h
          exact .cleanup (.failSkip hl hf)
    · cases h
  case feed b =>
    cases h.2
    exact .env .update_same
  -- `eof`, `reset`, `provClose`, `breakWriter`: one flag each
  all_goals
    cases h
    exact .env .update_same

theorem run_induct {P : St → Prop} (hstep : ∀ {s l s'}, Trans s l s' → P s → P s')
    {s : St} (h : P s) (sch : List Label) : P (run s sch) := by
  induction sch generalizing s with
  | nil => exact h
  | cons l ls ih =>
    simp only [run]
    cases hs : step s l with
    | none => simpa using ih h
    | some s' => simpa using ih (hstep (step_trans hs) h)

/-- `t` arises from `s` by dropping table entries, failing futures and writing frames -/
structure Shrink (s t : St) : Prop where
  pending : t.pending.Sublist s.pending
  phase : ∀ c, (t.calls c).phase = (s.calls c).phase
  fut : ∀ c r, (t.calls c).fut = .res r → (s.calls c).fut = .res r
  delivered : t.delivered = s.delivered
  sentReqs : t.sentReqs = s.sentReqs
  outbox : s.outbox ⊆ t.outbox

theorem Env.shrink {s t : St} (e : Env s t) : Shrink s t :=
  ⟨e.pending ▸ .refl _, fun _ => by rw [e.calls], fun _ _ => by rw [e.calls]; exact id, e.delivered,
    e.sentReqs, e.outbox⟩

theorem Cleanup.shrink {s t : St} (h : Cleanup s t) : Shrink s t := by
  have fail {c : Nat} {e : Exc} (k : Nat) (r : Bytes) :
      ((s.setFut c (.failed e)).calls k).fut = .res r → (s.calls k).fut = .res r := by
    simp only [setFut_fut]
    split <;> simp
  cases h with
  | lexit =>
    rw [lexit_eq]
    exact ⟨.refl _, fun _ => rfl, fun _ _ => id, rfl, rfl, .refl _⟩
  | clr | iterDone => exact ⟨List.nil_sublist _, fun _ => rfl, fun _ _ => id, rfl, rfl, .refl _⟩
  | crash | failDone | failSkip => exact ⟨.refl _, fun _ => rfl, fun _ _ => id, rfl, rfl, .refl _⟩
  | iterFail | failStep => exact ⟨.refl _, fun _ => setFut_phase .., fail, rfl, rfl, .refl _⟩

theorem Cleanup.not_exited {s t : St} (h : Cleanup s t) : s.lst ≠ .exited := by
  cases h <;> simp [*]

/-! ## invariant A (both variants): bookkeeping of ids -/

def ids (s : St) : List Nat := s.delivered.map (·.1)

structure InvA (s : St) : Prop where
  nodup : s.pending.Nodup
  started : ∀ c ∈ s.pending, (s.calls c).phase ≠ .idle ∧ (s.calls c).phase ≠ .checked
  idsNodup : (ids s).Nodup
  pendFresh : ∀ c ∈ s.pending, c ∉ ids s
  earlyFresh : ∀ c, (s.calls c).phase = .idle ∨ (s.calls c).phase = .checked → c ∉ ids s
  resDelivered : ∀ c r, (s.calls c).fut = .res r → (c, r) ∈ s.delivered
  okDelivered : ∀ c r, (s.calls c).phase = .done (.ok r) → (c, r) ∈ s.delivered

theorem invA_init (v cb fb) : InvA (init v cb fb) := by
  refine ⟨?_, ?_, ?_, ?_, ?_, ?_, ?_⟩ <;> simp [init, ids]

theorem InvA.shrink {s t : St} (h : InvA s) (f : Shrink s t) : InvA t := by
  have hi : ids t = ids s := by simp only [ids, f.delivered]
  refine {
    nodup := h.nodup.sublist f.pending
    idsNodup := hi ▸ h.idsNodup
    pendFresh := fun c hc => hi ▸ h.pendFresh c (f.pending.subset hc)
    resDelivered := fun c r hr => f.delivered ▸ h.resDelivered c r (f.fut c r hr)
    started := fun c hc => ?started
    earlyFresh := fun c hc => ?earlyFresh
    okDelivered := fun c r hc => ?okDelivered }
  case started =>
    rw [f.phase]
    exact h.started c (f.pending.subset hc)
  case earlyFresh =>
    rw [f.phase] at hc
    exact hi ▸ h.earlyFresh c hc
  case okDelivered =>
    rw [f.phase] at hc
    exact f.delivered ▸ h.okDelivered c r hc

/-- `O`, `R` are arbitrary (`InvA` does not read the send side), so that `send` is an instance -/
theorem InvA.move {s : St} (h : InvA s) {c : Nat} {q : Phase} {P R : List Nat} {O : List (Nat × Bytes)}
    (hP : P.Nodup) (hk : ∀ k ∈ P, k ∈ s.pending ∨ k = c ∧ c ∉ ids s)
    (h1 : c ∈ P → q ≠ .idle ∧ q ≠ .checked) (h2 : q = .idle ∨ q = .checked → c ∉ ids s)
    (h3 : ∀ r, q = .done (.ok r) → (c, r) ∈ s.delivered) :
    InvA { s.setPhase c q with pending := P, outbox := O, sentReqs := R } := by
  refine {
    nodup := hP
    idsNodup := h.idsNodup
    started := fun k hm => ?started
    pendFresh := fun k hm => ?pendFresh
    earlyFresh := fun k => ?earlyFresh
    resDelivered := fun k r => ?resDelivered
    okDelivered := fun k r => ?okDelivered }
  all_goals simp only [setPhase_phase, setPhase_fut]
  case started =>
    split
    · subst k
      exact h1 hm
    · rename_i hne
      exact h.started k ((hk k hm).resolve_right fun x => absurd x.1 hne)
  case pendFresh => exact (hk k hm).elim (h.pendFresh k) fun x => x.1 ▸ x.2
  case earlyFresh =>
    split
    · subst k
      exact h2
    · exact h.earlyFresh k
  case resDelivered => exact h.resDelivered k r
  case okDelivered =>
    split
    · subst k
      exact h3 r
    · exact h.okDelivered k r

theorem InvA.trans {s s' : St} {l : Label} (t : Trans s l s') (h : InvA s) : InvA s' := by
  induction t with
  | comp _ _ ih1 ih2 => exact ih2 (ih1 h)
  | env e | cleanup e => exact h.shrink e.shrink
  | @move s _ c p q hp e =>
    -- only `check` enters a phase the table and the log speak of, and an idle call is in neither
    refine h.move h.nodup (fun _ hk => .inl hk) (fun hm => ?_) (fun hq => h.earlyFresh c (.inl ?_))
      (fun r hr => ?_)
    · have := h.started c hm
      rw [hp] at this
      cases e <;> simp at this ⊢
    · rw [hp]
      cases e <;> simp at hq ⊢
    · cases e <;> cases hr
  | @reg s _ c hp =>
    have hc : c ∉ s.pending := fun hm => (h.started c hm).2 hp
    exact h.move (nodup_snoc h.nodup hc)
      (fun k hk => (List.mem_append.1 hk).imp_right fun hk =>
        ⟨List.mem_singleton.1 hk, h.earlyFresh c (.inr hp)⟩)
      (by simp) (by simp) (by simp)
  | send => exact h.move h.nodup (fun _ hk => .inl hk) (by simp) (by simp) (by simp)
  | @finish s _ c o _ _ ho =>
    have hp : (if s.variant = .fixed then s.pending.erase c else s.pending).Sublist s.pending := by
      split
      · exact List.erase_sublist
      · exact .refl _
    refine h.move (h.nodup.sublist hp) (fun k hk => .inl (hp.subset hk)) (by simp) (by simp) fun r hr => ?_
    -- a value is returned only from a resolved future
    cases hr
    exact h.resDelivered c r (outcomeOf_ok (ho.resolve_left (by simp)).2)
  | @answer s id body hl hm =>
    have hid : id ∉ ids s := h.pendFresh id hm
    refine {
      nodup := h.nodup.erase _
      started := fun k hk => ?started
      idsNodup := ?idsNodup
      pendFresh := fun k hk => ?pendFresh
      earlyFresh := fun k hk => ?earlyFresh
      resDelivered := fun k r => ?resDelivered
      okDelivered := fun k r hk => ?okDelivered }
    all_goals simp only [setFut_phase, setFut_fut, ids, List.map_append, List.map_cons,
      List.map_nil, List.mem_append, List.mem_singleton] at *
    case started => exact h.started k (List.mem_of_mem_erase hk)
    case idsNodup => exact nodup_snoc h.idsNodup hid
    case pendFresh =>
      have := h.nodup.mem_erase_iff.1 hk
      exact not_or.2 ⟨h.pendFresh k this.2, this.1⟩
    case earlyFresh =>
      -- `id` was in the table, so it is neither idle nor checked
      refine not_or.2 ⟨h.earlyFresh k hk, fun hki => ?_⟩
      have := h.started id hm
      rw [hki] at hk
      exact hk.elim this.1 this.2
    case resDelivered =>
      split
      · rename_i hk
        intro hr
        cases hr
        exact .inr (by rw [hk])
      · exact fun hr => .inl (h.resDelivered k r hr)
    case okDelivered => exact .inl (h.okDelivered k r hk)

/-! ## invariant B (repaired code): who still has to be failed by the cleanup -/

/-- the phases in which a call can have a table entry -/
def active : Phase → Bool
  | .registered | .submitted | .sent | .waiting => true
  | _ => false

/-- the request has been written: the calls that a lost connection must fail -/
def awaiting : Phase → Bool
  | .sent | .waiting => true
  | _ => false

/-- the calls the listener still owes an answer or a failure -/
def owed (s : St) (c : Nat) : Prop :=
  match s.lst with
  | .listening => c ∈ s.pending
  | .snapped _ items => c ∈ items
  | .failing _ items => c ∈ items
  | _ => False

/-- * `writerGone`: a `send` after the listener has left raises (`late_call_*`)
    * `shape`, `noCrash`: the repaired cleanup never iterates the live table
    * `nodup`, `pendActive`: `finish` and `answer` remove the one entry of a call as it stops
      being active
    * `listenOwes`: the snapshot taken when the listener leaves holds every active call with an
      unresolved future
    * `waitOwed`: a written call with an unresolved future is on the list the cleanup still has to
      go through; after the exit that list is empty, so a waiting call can be delivered
    * `beyond`: only calls below `n` have io labels, which makes `ioIdle` a finite test -/
structure InvB (s : St) : Prop where
  fixed : s.variant = .fixed
  writerGone : s.lst ≠ .listening → s.writer = false
  shape : ∀ e todo n, s.lst ≠ .iterating e todo n
  noCrash : s.lst ≠ .crashed
  nodup : s.pending.Nodup
  pendActive : ∀ c ∈ s.pending, active (s.calls c).phase = true
  listenOwes : s.lst = .listening → ∀ c, active (s.calls c).phase = true →
      (s.calls c).fut = .unres → c ∈ s.pending
  waitOwed : ∀ c, awaiting (s.calls c).phase = true → (s.calls c).fut = .unres → owed s c
  beyond : ∀ c, s.n ≤ c → (s.calls c).phase = .idle

theorem invB_init (cb fb) : InvB (init .fixed cb fb) := by
  refine ⟨?_, ?_, ?_, ?_, ?_, ?_, ?_, ?_, ?_⟩ <;> simp [init, active, awaiting, owed]

theorem active_of_awaiting {p : Phase} (h : awaiting p = true) : active p = true := by
  revert h
  cases p <;> simp [awaiting, active]

theorem owed_mono {s t : St} {k : Nat} (hl : t.lst = s.lst) (hp : k ∈ s.pending → k ∈ t.pending)
    (h : owed s k) : owed t k := by
  simp only [owed, hl] at h ⊢
  split at h
  · exact hp h
  all_goals exact h

/-- `P` is the table after the move: nobody but `c` enters or leaves it (`hk`).  `hA`, `hL`, `hW`
    are `pendActive`, `listenOwes`, `waitOwed` for `c` in its new phase `q`; `hN` is what `beyond`
    needs when `c` leaves `idle`. -/
theorem InvB.move {s : St} (h : InvB s) {c : Nat} {q : Phase} {P R : List Nat} {O : List (Nat × Bytes)}
    (hP : P.Nodup) (hk : ∀ k, k ≠ c → (k ∈ P ↔ k ∈ s.pending)) (hA : c ∈ P → active q = true)
    (hL : s.lst = .listening → active q = true → (s.calls c).fut = .unres → c ∈ P)
    (hW : awaiting q = true → (s.calls c).fut = .unres → owed { s with pending := P } c)
    (hN : (s.calls c).phase = .idle → c < s.n) :
    InvB { s.setPhase c q with pending := P, outbox := O, sentReqs := R } := by
  refine { h with
    nodup := hP
    pendActive := fun k hm => ?pendActive
    listenOwes := fun hl k => ?listenOwes
    waitOwed := fun k => ?waitOwed
    beyond := fun k hn => ?beyond }
  all_goals simp only [setPhase_phase, setPhase_fut]
  case pendActive =>
    split
    · subst k
      exact hA hm
    · rename_i hne
      exact h.pendActive k ((hk k hne).1 hm)
  case listenOwes =>
    split
    · subst k
      exact hL hl
    · rename_i hne
      exact fun ha hu => (hk k hne).2 (h.listenOwes hl k ha hu)
  case waitOwed =>
    split
    · subst k
      exact hW
    · rename_i hne
      exact fun ha hu => owed_mono (s := s) rfl (hk k hne).2 (h.waitOwed k ha hu)
  case beyond =>
    split
    · subst k
      exact absurd (hN (h.beyond c hn)) (Nat.not_lt.2 hn)
    · exact h.beyond k hn

theorem InvB.trans {s s' : St} {l : Label} (t : Trans s l s') (h : InvB s) : InvB s' := by
  induction t with
  | comp _ _ ih1 ih2 => exact ih2 (ih1 h)
  | env e =>
    -- the fields in the order of `InvB`, each rewritten to its statement about `s`;
    -- only `beyond` reads `n`
    constructor <;> simp only [owed, e.variant, e.lst, e.writer, e.pending, e.calls]
    · exact h.fixed
    · exact h.writerGone
    · exact h.shape
    · exact h.noCrash
    · exact h.nodup
    · exact h.pendActive
    · exact h.listenOwes
    · exact h.waitOwed
    · exact fun c hc => h.beyond c (Nat.le_trans e.n hc)
  | @move s _ c p q hp e hn =>
    -- such a move leaves a call on its side of the table and of what the listener owes
    have ha : active q = active p := by cases e <;> rfl
    have hw : awaiting q = true → awaiting p = true := by cases e <;> simp [awaiting]
    subst hp
    exact h.move h.nodup (fun _ _ => .rfl) (fun hm => ha.trans (h.pendActive c hm))
      (fun hl hq => h.listenOwes hl c (ha.symm.trans hq)) (fun hq => h.waitOwed c (hw hq)) hn
  | @reg s _ c hp =>
    have hc : c ∉ s.pending := fun hm => by simpa [hp, active] using h.pendActive c hm
    exact h.move (nodup_snoc h.nodup hc) (fun k hk => by simp [hk]) (fun _ => rfl) (fun _ _ _ => by simp)
      (by simp [awaiting]) (by simp [hp])
  | @send s _ c hp hwr =>
    -- the writer is still there, so the client is listening and owes every active call in the table
    have hl : s.lst = .listening := Decidable.not_not.1 fun hl => by simpa [hwr] using h.writerGone hl
    have ho : (s.calls c).fut = .unres → c ∈ s.pending := h.listenOwes hl c (by rw [hp]; rfl)
    exact h.move h.nodup (fun _ _ => .rfl) (fun _ => rfl) (fun _ _ => ho)
      (fun _ hu => by simp only [owed, hl]; exact ho hu) (by simp [hp])
  | @finish s _ c o hb =>
    rw [if_pos h.fixed]
    exact h.move (h.nodup.erase c) (fun k hk => ⟨List.mem_of_mem_erase, (List.mem_erase_of_ne hk).2⟩)
      (fun hm => absurd hm h.nodup.not_mem_erase) (by simp [active]) (by simp [awaiting])
      (fun hi => by rw [hi] at hb; cases hb)
  | @answer s id body hl hm =>
    have lo (k : Nat) (ha : active (s.calls k).phase = true) :
        (if k = id then Fut.res body else (s.calls k).fut) = .unres → k ∈ s.pending.erase id := by
      split
      · simp
      · exact fun hu => (List.mem_erase_of_ne ‹_›).2 (h.listenOwes hl k ha hu)
    refine { h with
      nodup := h.nodup.erase _
      pendActive := fun k hk => ?pendActive
      listenOwes := fun _ k => ?listenOwes
      waitOwed := fun k ha => ?waitOwed
      beyond := fun k hk => (setFut_phase ..).trans (h.beyond k hk) }
    all_goals simp only [setFut_phase, setFut_fut, setFut_lst, owed, hl] at *
    case pendActive => exact h.pendActive k (List.mem_of_mem_erase hk)
    case listenOwes => exact lo k
    case waitOwed => exact lo k (active_of_awaiting ha)
  | cleanup x =>
    have hw := h.waitOwed
    cases x with
    | crash hl | iterDone hl | iterFail hl => exact absurd hl (h.shape _ _ _)
    | @lexit e hl =>
      -- the snapshot is the table, and a listening client owes every active call
      rw [lexit_eq, if_pos h.fixed]
      exact { h with
        writerGone := fun _ => rfl, shape := by simp, noCrash := by simp, listenOwes := by simp
        waitOwed := fun c ha hf => h.listenOwes hl c (active_of_awaiting ha) hf }
    | @clr e items hl =>
      simp only [owed, hl] at hw
      exact { h with
        writerGone := fun _ => h.writerGone (by simp [hl]), shape := by simp, noCrash := by simp
        nodup := List.nodup_nil, pendActive := by simp, listenOwes := by simp, waitOwed := hw }
    | @failDone e hl =>
      simp only [owed, hl, List.not_mem_nil] at hw
      exact { h with
        writerGone := fun _ => h.writerGone (by simp [hl]), shape := by simp, noCrash := by simp
        listenOwes := by simp, waitOwed := hw }
    | @failSkip e c rest hl hf =>
      simp only [owed, hl, List.mem_cons] at hw
      exact { h with
        writerGone := fun _ => h.writerGone (by simp [hl]), shape := by simp, noCrash := by simp
        listenOwes := by simp
        waitOwed := fun k ha hu => (hw k ha hu).resolve_left fun hk => hf (hk ▸ hu) }
    | @failStep e c rest hl hf =>
      simp only [owed, hl, List.mem_cons] at hw
      refine { h with
        writerGone := fun _ => h.writerGone (by simp [hl]), shape := by simp, noCrash := by simp
        listenOwes := by simp, pendActive := ?pendActive, waitOwed := fun k => ?waitOwed
        beyond := ?beyond }
      all_goals simp only [setFut_phase, setFut_fut, owed]
      case pendActive => exact h.pendActive
      case beyond => exact h.beyond
      case waitOwed =>
        -- the call just failed is owed nothing; the others are still on the list
        split
        · simp
        · rename_i hk
          exact fun ha hu => (hw k ha hu).resolve_left hk

theorem reach_invA (v cb fb) (sch : List Label) : InvA (run (init v cb fb) sch) :=
  run_induct InvA.trans (invA_init v cb fb) sch

theorem reach_invB (cb fb) (sch : List Label) : InvB (run (init .fixed cb fb) sch) :=
  run_induct InvB.trans (invB_init cb fb) sch

/-! ## invariant W: the send side — a request frame is written whole, once -/

structure InvW (s : St) : Prop where
  nodup : s.sentReqs.Nodup
  written : ∀ c ∈ s.sentReqs, (s.calls c).phase = .sent ∨ (s.calls c).phase = .waiting ∨
      ∃ o, (s.calls c).phase = .done o
  sentIn : ∀ c, (s.calls c).phase = .sent ∨ (s.calls c).phase = .waiting → c ∈ s.sentReqs
  onWire : ∀ c ∈ s.sentReqs, c ∈ s.outbox.map (·.1)

theorem invW_init (v cb fb) : InvW (init v cb fb) := by
  refine ⟨?_, ?_, ?_, ?_⟩ <;> simp [init]

theorem InvW.frame {s t : St} (h : InvW s) (hs : t.sentReqs = s.sentReqs)
    (hp : ∀ c, (t.calls c).phase = (s.calls c).phase) (ho : s.outbox ⊆ t.outbox) : InvW t :=
  ⟨hs ▸ h.nodup, by simpa only [hs, hp] using h.written, by simpa only [hs, hp] using h.sentIn,
   fun c hc => List.map_subset _ ho (h.onWire c (hs ▸ hc))⟩

theorem InvW.move {s : St} (h : InvW s) {c : Nat} {q : Phase}
    (h1 : c ∈ s.sentReqs → q = .sent ∨ q = .waiting ∨ ∃ o, q = .done o)
    (h2 : q = .sent ∨ q = .waiting → c ∈ s.sentReqs) {P : List Nat} :
    InvW { s.setPhase c q with pending := P } := by
  refine { h with written := fun k hk => ?written, sentIn := fun k => ?sentIn }
  all_goals simp only [setPhase_phase]
  case written =>
    split
    · subst k
      exact h1 hk
    · exact h.written k hk
  case sentIn =>
    split
    · subst k
      exact h2
    · exact h.sentIn k

theorem InvW.trans {s s' : St} {l : Label} (t : Trans s l s') (h : InvW s) : InvW s' := by
  induction t with
  | comp _ _ ih1 ih2 => exact ih2 (ih1 h)
  | env e | cleanup e => exact h.frame e.shrink.sentReqs e.shrink.phase e.shrink.outbox
  | answer => exact h.frame rfl (fun _ => setFut_phase ..) (.refl _)
  | @move s _ c p q hp e =>
    -- of these moves only `drain` is made by a call whose request is written, and it stays written
    refine h.move (fun hc => ?_) (fun hq => h.sentIn c ?_)
    · have := h.written c hc
      rw [hp] at this
      cases e <;> simp at this ⊢
    · rw [hp]
      cases e <;> simp at hq ⊢
  | reg hp => exact h.move (fun hc => by simpa [hp] using h.written _ hc) (by simp)
  | @send s _ c hp =>
    have hc : c ∉ s.sentReqs := fun hc => by simpa [hp] using h.written c hc
    refine {
      nodup := nodup_snoc h.nodup hc
      written := fun k hk => ?written
      sentIn := fun k hk => ?sentIn
      onWire := fun k hk => ?onWire }
    all_goals simp only [setPhase_phase, List.mem_append, List.mem_singleton,
      List.map_append] at *
    case written =>
      split
      · exact .inl rfl
      · rename_i hne
        exact h.written k (hk.resolve_right hne)
    case sentIn =>
      split at hk
      · rename_i he
        exact .inr he
      · exact .inl (h.sentIn k hk)
    case onWire => exact hk.elim (fun hk => .inl (h.onWire k hk)) fun hk => .inr (by simp [hk])
  | finish => exact h.move (by simp) (by simp)

theorem reach_invW (v cb fb) (sch : List Label) : InvW (run (init v cb fb) sch) :=
  run_induct InvW.trans (invW_init v cb fb) sch

def isOk : Outcome → Bool
  | .ok _ => true
  | _ => false

/-- a call that can no longer be answered: not yet sent, or finished with an error -/
def late : Phase → Bool
  | .idle | .checked | .registered | .submitted => true
  | .done o => !isOk o
  | _ => false

/-- own steps a late call still has to take before it has raised -/
def lateRank : Phase → Nat
  | .idle => 4
  | .checked => 3
  | .registered => 2
  | .submitted => 1
  | .done _ => 0
  | _ => 5   -- `sent`, `waiting`: not late, the value plays no part

structure LateInv (c : Nat) (s : St) : Prop where
  invB : InvB s
  exited : s.lst = .exited
  late : late (s.calls c).phase = true

/-- after the exit only its own moves touch a late call, and `send` cannot write (the writer is
    gone) -/
theorem late_trans {c : Nat} {s s' : St} {l : Label} (t : Trans s l s') (h : LateInv c s) :
    LateInv c s' ∧ lateRank (s'.calls c).phase ≤ lateRank (s.calls c).phase := by
  suffices key : s'.lst = .exited ∧ late (s'.calls c).phase = true ∧
      lateRank (s'.calls c).phase ≤ lateRank (s.calls c).phase from
    ⟨⟨h.invB.trans t, key.1, key.2.1⟩, key.2.2⟩
  obtain ⟨hB, hl, hc⟩ := h
  have move {s : St} {k q P O R} (hl : s.lst = .exited) (hc : late (s.calls c).phase = true)
      (hq : late (s.calls k).phase = true → late q = true ∧ lateRank q ≤ lateRank (s.calls k).phase) :
      let t : St := { s.setPhase k q with pending := P, outbox := O, sentReqs := R }
      t.lst = .exited ∧ late (t.calls c).phase = true ∧
        lateRank (t.calls c).phase ≤ lateRank (s.calls c).phase := by
    simp only [setPhase_phase]
    split
    next hk =>
      subst hk
      exact ⟨hl, hq hc⟩
    next => exact ⟨hl, hc, Nat.le_refl _⟩
  induction t with
  | comp t1 _ ih1 ih2 =>
    have a := ih1 hB hl hc
    have b := ih2 (hB.trans t1) a.1 a.2.1
    exact ⟨b.1, b.2.1, Nat.le_trans b.2.2 a.2.2⟩
  | env e => exact ⟨e.lst ▸ hl, e.calls ▸ hc, Nat.le_of_eq (by rw [e.calls])⟩
  | move hp e =>
    refine move hl hc ?_
    rw [hp]
    cases e <;> decide
  | reg hp =>
    refine move hl hc ?_
    rw [hp]
    decide
  | send _ hwr => exact absurd hwr (by simp [hB.writerGone (by simp [hl])])
  | @finish s _ k o hb _ ho =>
    refine move hl hc fun hc => ?_
    -- a late blocked call is `submitted`, so it finishes with `sendErr`
    have hs : (s.calls k).phase = .submitted := by
      revert hb hc
      cases (s.calls k).phase <;> simp [blocked, late]
    rcases ho with rfl | ⟨h, _⟩
    · rw [hs]
      decide
    · rw [hs] at h
      cases h
  | answer h =>
    rw [hl] at h
    cases h
  | cleanup x => exact absurd hl x.not_exited

/-- for `loss_anywhere_fails_pending`: once the listener has left with `e`, call `c` is already
    failed with `e` or still on the cleanup's list -/
structure FailInv (e : Exc) (c : Nat) (s : St) : Prop where
  phase : (s.calls c).phase = .sent ∨ (s.calls c).phase = .waiting ∨ (s.calls c).phase = .done (.exc e)
    ∨ (s.calls c).phase = .done .sendErr
  fixed : s.variant = .fixed
  owes : match s.lst with
    | .snapped e' items | .failing e' items =>
      e' = e ∧ ((s.calls c).fut = .failed e ∨ ((s.calls c).fut = .unres ∧ c ∈ items))
    | .exited => (s.calls c).fut = .failed e
    | _ => False

theorem FailInv.failed {e : Exc} {c : Nat} {s : St} (h : FailInv e c s) (hc : s.lst.cleaning = false) :
    (s.calls c).fut = .failed e := by
  have ho := h.owes
  revert ho hc
  cases s.lst <;> simp [Lst.cleaning]

theorem FailInv.move {e : Exc} {c : Nat} {s : St} (h : FailInv e c s) {k : Nat} {q : Phase}
    (hq : k = c → q = .sent ∨ q = .waiting ∨ q = .done (.exc e) ∨ q = .done .sendErr)
    {P R : List Nat} {O : List (Nat × Bytes)} :
    FailInv e c { s.setPhase k q with pending := P, outbox := O, sentReqs := R } := by
  refine ⟨?_, h.fixed, ?_⟩
  all_goals simp only [setPhase_phase, setPhase_fut]
  · split
    · exact hq (Eq.symm ‹_›)
    · exact h.phase
  · exact h.owes

theorem FailInv.trans {e : Exc} {c : Nat} {s s' : St} {l : Label} (t : Trans s l s') (h : FailInv e c s) :
    FailInv e c s' := by
  induction t with
  | comp _ _ ih1 ih2 => exact ih2 (ih1 h)
  | env x => exact ⟨x.calls ▸ h.phase, x.variant ▸ h.fixed, by rw [x.lst, x.calls]; exact h.owes⟩
  | move hp e =>
    -- `c` has been sent, so of these moves only `drain` can be its own
    refine h.move fun hk => ?_
    have := h.phase
    rw [← hk, hp] at this
    cases e <;> simp at this ⊢
  | reg hp | send hp _ =>
    refine h.move fun hk => ?_
    have := h.phase
    simp [← hk, hp] at this
  | @finish s _ k o _ hcl hout =>
    refine h.move fun hk => ?_
    rcases hout with rfl | ⟨_, hout⟩
    · exact .inr (.inr (.inr rfl))
    · rw [hk, h.failed hcl] at hout
      cases hout
      exact .inr (.inr (.inl rfl))
  | answer hl =>
    -- `owes` is `False` while the client listens
    have ho := h.owes
    simp only [hl] at ho
  | cleanup x =>
    have ho := h.owes
    cases x with
    | lexit hl | crash hl | iterDone hl | iterFail hl =>
      -- listening, or the pinned loop: `owes` is `False`
      simp only [hl] at ho
    | clr hl => exact ⟨h.phase, h.fixed, by simpa only [hl] using ho⟩
    | failDone hl => exact ⟨h.phase, h.fixed, by simp [hl] at ho; exact ho.2⟩
    | @failSkip _ k rest hl hf =>
      simp only [hl, List.mem_cons] at ho
      refine ⟨h.phase, h.fixed, ho.1, ho.2.imp_right fun hu => ⟨hu.1, hu.2.resolve_left fun hk => ?_⟩⟩
      exact hf (hk ▸ hu.1)
    | @failStep _ k rest hl hf =>
      simp only [hl, List.mem_cons] at ho
      refine ⟨(setFut_phase ..).symm ▸ h.phase, h.fixed, ?_⟩
      simp only [setFut_fut]
      refine ⟨ho.1, ?_⟩
      split
      · exact .inl (by rw [ho.1])
      · exact ho.2.imp_right fun hu => ⟨hu.1, hu.2.resolve_left ‹_›⟩

/-- **answer_is_own** (both variants, every schedule, any number of calls): a call returns `r`
    only if the listener matched a frame `(c, r)` carrying the call's own id to its pending entry. -/
theorem answer_is_own (v : Variant) (cb : Bytes) (fb : List Bytes) (sch : List Label) (c : Nat) (r : Bytes) :
    let s := run (init v cb fb) sch
    (s.calls c).phase = .done (.ok r) → (c, r) ∈ s.delivered :=
  (reach_invA v cb fb sch).okDelivered c r

/-- ... and at most once: no id is matched twice, so the value a call can return is unique. -/
theorem answer_at_most_once (v : Variant) (cb : Bytes) (fb : List Bytes) (sch : List Label) :
    let s := run (init v cb fb) sch
    (s.delivered.map (·.1)).Nodup ∧
    ∀ c r r', (c, r) ∈ s.delivered → (c, r') ∈ s.delivered → r = r' := by
  have h := (reach_invA v cb fb sch).idsNodup
  exact ⟨h, fun c r r' h1 h2 => fst_nodup_unique h h1 h2⟩

/-- **request_written_once** (both variants): under every schedule — other senders running
    between a call's `send` and its `drain` included — the request of a call is handed to the
    writer at most once and as one frame (`send` is a single step), it is on the wire, and a call
    that is waiting for its answer has been written -/
theorem request_written_once (v : Variant) (cb : Bytes) (fb : List Bytes) (sch : List Label) :
    let s := run (init v cb fb) sch
    s.sentReqs.Nodup ∧ (∀ c ∈ s.sentReqs, c ∈ s.outbox.map (·.1)) ∧
    ∀ c, (s.calls c).phase = .sent ∨ (s.calls c).phase = .waiting → c ∈ s.sentReqs := by
  have h := reach_invW v cb fb sch
  exact ⟨h.nodup, h.onWire, h.sentIn⟩

theorem Trans.delivered {s s' : St} {l : Label} (t : Trans s l s') (hl : l ≠ .recv) :
    s'.delivered = s.delivered := by
  induction t with
  | comp _ _ ih1 ih2 => exact (ih2 hl).trans (ih1 hl)
  | env e | cleanup e => exact e.shrink.delivered
  | answer => exact absurd rfl hl
  | move | reg | send | finish => rfl

/-- the ghost log grows only when the listener decodes a frame whose id is pending -/
theorem delivered_only_by_recv (s : St) (l : Label) (s' : St) (hs : step s l = some s') :
    s'.delivered = s.delivered ∨
    (l = .recv ∧ ∃ id body rest, decodeFrame s.inbuf = some (id, body, rest) ∧ id ∈ s.pending ∧
      s'.delivered = s.delivered ++ [(id, body)]) := by
  by_cases hl : l = .recv
  · subst hl
    obtain ⟨-, a, ha, t, he, hs⟩ := recv_cases hs
    have hd : s'.delivered = a.delivered := by
      rcases hs with rfl | ⟨e, rfl⟩
      · exact he.delivered
      · exact (lexit_delivered ..).trans he.delivered
    rcases ha with rfl | ⟨id, body, rest, hf, hm, rfl⟩
    · exact .inl hd
    · exact .inr ⟨rfl, id, body, rest, hf, hm, hd⟩
  · exact .inl ((step_trans hs).delivered hl)

-- the answers arrive in the opposite order of the requests; each call returns its own
example :
    let sch := [Label.check 0 false, .reg 0, .check 1 false, .reg 1, .submit 1, .submit 0, .send 1, .drain 1,
                .send 0, .drain 0, .feed (encodeFrame 1 [7]), .feed (encodeFrame 0 [9]), .recv, .recv,
                .deliver 0, .deliver 1]
    let s := run (init .fixed [] []) sch
    ((s.calls 0).phase, (s.calls 1).phase) = (.done (.ok [9]), .done (.ok [7])) := by decide

theorem InvB.blocked_enabled {s : St} (h : InvB s) (hl : s.lst = .exited) {c : Nat}
    (hb : blocked (s.calls c).phase = true) :
    enabled s (.send c) = true ∨ enabled s (.drain c) = true ∨ enabled s (.deliver c) = true := by
  cases hp : (s.calls c).phase with
  | submitted =>
    refine .inl ?_
    simp [enabled, step, hp, hl, Lst.cleaning]
    split <;> simp
  | sent =>
    refine .inr (.inl ?_)
    simp [enabled, step, hp, hl, Lst.cleaning]
    split <;> simp
  | waiting =>
    -- after the exit nothing is owed, so the future of a waiting call is resolved or failed
    have hne : (s.calls c).fut ≠ .unres := fun hu => by
      simpa [owed, hl] using h.waitOwed c (by simp [hp, awaiting]) hu
    obtain ⟨o, ho⟩ := Option.isSome_iff_exists.1 (outcomeOf_some_iff.2 hne)
    refine .inr (.inr ?_)
    simp [enabled, step, hp, hl, Lst.cleaning, ho]
  | idle | checked | registered | done _ => simp [hp, blocked] at hb

theorem InvB.ioIdle_not_blocked {s : St} (h : InvB s) (hl : s.lst = .exited)
    (hio : ∀ l : Label, l.isIo = true → enabled s l = false) (c : Nat) :
    blocked (s.calls c).phase = false := by
  cases hb : blocked (s.calls c).phase with
  | false => rfl
  | true =>
    rcases h.blocked_enabled hl hb with h | h | h <;> rw [hio _ rfl] at h <;> cases h

/-- **no_stuck_waiter** (repaired code): in every reachable state in which the listener has exited
    and no io-loop step is enabled, no call is blocked in `.result()`. -/
theorem no_stuck_waiter (cb : Bytes) (fb : List Bytes) (sch : List Label) :
    let s := run (init .fixed cb fb) sch
    s.lst = .exited → (∀ l : Label, l.isIo = true → enabled s l = false) →
    ∀ c, blocked (s.calls c).phase = false := by
  intro s hl hio c
  exact (reach_invB cb fb sch).ioIdle_not_blocked hl hio c

/-- the io labels of the calls below `n` are on the list of `ioIdle`, and a call from `n` on is
    idle (`beyond`), where `send`, `drain`, `deliver` are no steps -/
theorem InvB.ioIdle_disabled {s : St} (h : InvB s) (hidle : ioIdle s = true) (l : Label)
    (hio : l.isIo = true) : enabled s l = false := by
  have hmem (hm : l ∈ ioLabels s) : enabled s l = false := by
    simpa using List.all_eq_true.1 hidle l hm
  cases l with
  | recv | served | clr | cl => exact hmem (List.mem_append_left _ (by simp))
  | send c | drain c | deliver c =>
    by_cases hc : c < s.n
    · exact hmem (List.mem_append_right _
        (List.mem_flatMap.2 ⟨c, List.mem_range.2 hc, by simp⟩))
    · simp [enabled, step, h.beyond c (Nat.le_of_not_lt hc)]
  | _ => cases hio

theorem InvB.ioIdle_not_anyBlocked {s : St} (h : InvB s) (hl : s.lst = .exited)
    (hidle : ioIdle s = true) : anyBlocked s = false := by
  simp only [anyBlocked, List.any_eq_false, List.mem_range]
  intro c _
  simpa using h.ioIdle_not_blocked hl (h.ioIdle_disabled hidle) c

/-- `no_stuck_waiter` with the decidable tests the driver prints (`idle=`, `blocked=`) -/
theorem no_stuck_waiter_decidable (cb : Bytes) (fb : List Bytes) (sch : List Label) :
    let s := run (init .fixed cb fb) sch
    s.lst = .exited → ioIdle s = true → anyBlocked s = false := by
  intro s hl hidle
  exact (reach_invB cb fb sch).ioIdle_not_anyBlocked hl hidle

theorem InvB.cleanup_enabled {s : St} (h : InvB s) (hc : s.lst.cleaning = true) :
    enabled s .clr = true ∨ enabled s .cl = true := by
  cases hl : s.lst with
  | listening | exited | crashed => simp [hl, Lst.cleaning] at hc
  | iterating e todo n => exact absurd hl (h.shape e todo n)
  | snapped e items => exact .inl (by simp [enabled, step, hl])
  | failing e items =>
    right
    cases items with
    | nil => simp [enabled, step, hl]
    | cons c rest =>
      simp [enabled, step, hl]
      split <;> simp

/-- the repaired cleanup cannot die: the listener is never `crashed`, and while it is cleaning
    its next step (`clr` / `cl`) is enabled whatever the callers do in between -/
theorem fixed_cleanup_never_crashes (cb : Bytes) (fb : List Bytes) (sch : List Label) :
    let s := run (init .fixed cb fb) sch
    s.lst ≠ .crashed ∧ (s.lst.cleaning = true → enabled s .clr = true ∨ enabled s .cl = true) := by
  intro s
  exact ⟨(reach_invB cb fb sch).noCrash, (reach_invB cb fb sch).cleanup_enabled⟩

/-- **late calls never wait** (second clause of no_stuck_waiter): once the listener has exited, a
    call that has not been sent yet can never reach `sent`/`waiting` nor return a value, whatever
    else is scheduled -/
theorem late_call_never_waits (cb : Bytes) (fb : List Bytes) (sch0 sch : List Label) (c : Nat) :
    let s := run (init .fixed cb fb) sch0
    s.lst = .exited → late (s.calls c).phase = true →
    let s' := run s sch
    s'.lst = .exited ∧ late (s'.calls c).phase = true ∧ blocked (s'.calls c).phase = false ∨
      (s'.calls c).phase = .submitted := by
  intro s hl hlate s'
  have h : LateInv c s' :=
    run_induct (P := LateInv c) (fun t h => (late_trans t h).1) ⟨reach_invB cb fb sch0, hl, hlate⟩ sch
  by_cases hp : (s'.calls c).phase = .submitted
  · exact .inr hp
  · refine .inl ⟨h.exited, h.late, ?_⟩
    have hlt := h.late
    revert hlt hp
    cases (s'.calls c).phase <;> simp [late, blocked]

/-- ... and it raises within four of its own steps: while it has not finished, its next own step
    is enabled and strictly lowers `lateRank` (≤ 4), and no step of anybody raises the rank -/
theorem late_call_progress (c : Nat) (s : St) (h : LateInv c s) :
    (∀ l s', step s l = some s' → LateInv c s' ∧ lateRank (s'.calls c).phase ≤ lateRank (s.calls c).phase) ∧
    (lateRank (s.calls c).phase ≠ 0 →
      ∃ l ∈ [Label.check c false, .reg c, .submit c, .send c], ∃ s', step s l = some s' ∧
        lateRank (s'.calls c).phase < lateRank (s.calls c).phase) := by
  refine ⟨fun l s' hs => late_trans (step_trans hs) h, ?_⟩
  intro hr
  have hw := h.invB.writerGone (by simp [h.exited])
  have hl := h.exited
  cases hp : (s.calls c).phase with
  | idle =>
    refine ⟨.check c false, by simp, ?_⟩
    simp only [step, hp]
    by_cases ho : s.provOpen = true <;>
      exact ⟨_, by simp [ho]; rfl, by simp [setPhase_phase, lateRank]⟩
  | checked =>
    exact ⟨.reg c, by simp, _, by simp only [step, hp]; rfl, by simp [setPhase_phase, lateRank]⟩
  | registered =>
    exact ⟨.submit c, by simp, _, by simp only [step, hp]; rfl,
      by simp [setPhase_phase, lateRank]⟩
  | submitted =>
    refine ⟨.send c, by simp, s.finish c .sendErr, by simp [step, hp, hl, hw, Lst.cleaning], ?_⟩
    simp [finish_eq, setPhase_phase, lateRank]
  | done o => simp [hp, lateRank] at hr
  | sent | waiting =>
    have := h.late
    simp [hp, late] at this

theorem InvB.idle_call_raises {s : St} (hB : InvB s) (hl : s.lst = .exited) (c : Nat) (close : Bool)
    (hp : (s.calls c).phase = .idle) :
    ∃ o, ((run s [.check c close, .reg c, .submit c, .send c]).calls c).phase = .done o ∧
      isOk o = false := by
  have hw := hB.writerGone (by simp [hl])
  have hv := hB.fixed
  by_cases h1 : (close && !s.running) = true
  · refine ⟨.noop, ?_, rfl⟩
    simp [run, step, hp, h1, St.setPhase, upd]
  · by_cases h2 : s.provOpen = true
    · refine ⟨.sendErr, ?_, rfl⟩
      simp [run, step, hp, h1, h2, hl, hw, hv, St.setPhase, St.finish, upd, Lst.cleaning]
    · refine ⟨.notOpen, ?_, rfl⟩
      simp [run, step, hp, h1, h2, St.setPhase, upd]

/-- a call started after the listener has exited ends after its own four steps, and not with a value:
    `noop` (a `close()` on a client that is not running), `notOpen`, or the send fails (no writer) -/
theorem late_call_raises (cb : Bytes) (fb : List Bytes) (sch0 : List Label) (c : Nat) (close : Bool) :
    let s := run (init .fixed cb fb) sch0
    s.lst = .exited → (s.calls c).phase = .idle →
    ∃ o, ((run s [.check c close, .reg c, .submit c, .send c]).calls c).phase = .done o ∧ isOk o = false := by
  intro s hl hp
  exact (reach_invB cb fb sch0).idle_call_raises hl c close hp

/-- **loss is detected at any byte**: a listening client whose stream ended inside a frame (or
    between frames), or whose transport failed, leaves through the cleanup with `lost` -/
theorem loss_detected (s : St) (hl : s.lst = .listening) (hs : s.serving = none)
    (h : s.inErr = true ∨ (s.eof = true ∧ decodeFrame s.inbuf = none)) :
    step s .recv = some (s.lexit .lost) := by
  rcases h with h | ⟨h1, h2⟩
  · simp [step, hl, hs, h]
  · by_cases he : s.inErr = true
    · simp [step, hl, hs, he]
    · simp [step, hl, hs, he, h1, h2]

theorem beBytes_length (k n : Nat) : (beBytes k n).length = k := by
  induction k generalizing n with
  | zero => rfl
  | succ k ih => simp [beBytes, ih]

theorem beVal_be4 (n : Nat) (h : n < 4294967296) : beVal (beBytes 4 n) = n := by
  simp [beBytes, beVal]
  omega

theorem encodeFrame_length (id : Nat) (body : Bytes) : (encodeFrame id body).length = 20 + body.length := by
  simp [encodeFrame, beBytes_length]
  omega

/-- every cut of a frame — inside the id, inside the length, inside the body, or before its first
    byte — leaves an incomplete buffer (own copy of C13's `incomplete_tail`) -/
theorem cut_anywhere_incomplete (id : Nat) (body : Bytes) (hb : body.length < 4294967296) (k : Nat)
    (hk : k < (encodeFrame id body).length) : decodeFrame ((encodeFrame id body).take k) = none := by
  rw [encodeFrame_length] at hk
  unfold decodeFrame
  by_cases h20 : k < 20
  · simp [List.length_take, encodeFrame_length]
    omega
  · have hlen : ((encodeFrame id body).take k).length = k := by
      simp [List.length_take, encodeFrame_length]
      omega
    have hmid : (((encodeFrame id body).take k).drop 16).take 4 = beBytes 4 body.length := by
      rw [List.drop_take, List.take_take]
      have : min 4 (k - 16) = 4 := by omega
      rw [this]
      simp only [encodeFrame, List.append_assoc]
      rw [List.drop_left' (beBytes_length 16 id)]
      exact List.take_left' (beBytes_length 4 body.length)
    simp only [hlen, hmid, beVal_be4 _ hb]
    simp
    omega

theorem InvB.exit_fails_waiting {s : St} (hB : InvB s) {e : Exc} {sch : List Label} {c : Nat}
    (hl : s.lst = .listening) (ha : awaiting (s.calls c).phase = true) (hf : (s.calls c).fut = .unres)
    (hex : (run (s.lexit e) sch).lst = .exited) :
    ((run (s.lexit e) sch).calls c).fut = .failed e ∧
      ∀ o, ((run (s.lexit e) sch).calls c).phase = .done o → o = .exc e ∨ o = .sendErr := by
  have hmem : c ∈ s.pending := hB.listenOwes hl c (active_of_awaiting ha) hf
  have h0 : FailInv e c (s.lexit e) := by
    rw [lexit_eq, if_pos hB.fixed]
    exact ⟨by cases hp : (s.calls c).phase <;> simp [hp, awaiting] at ha ⊢, hB.fixed, rfl,
      .inr ⟨hf, hmem⟩⟩
  have h1 : FailInv e c (run (s.lexit e) sch) := run_induct FailInv.trans h0 sch
  refine ⟨h1.failed (by rw [hex]; rfl), fun o ho => ?_⟩
  rcases h1.phase with hp | hp | hp | hp <;> rw [hp] at ho <;> cases ho <;> simp

/-- **loss_anywhere_fails_pending** (repaired code): take any reachable state in which the client
    is listening and call `c` is waiting on an unresolved future; if the connection is then lost at
    any byte (`loss_detected`, `cut_anywhere_incomplete`), then in EVERY continuation — callers
    registering during the cleanup included — once the listener has exited `c`'s future is failed
    with `lost`, and `c` can only finish by raising -/
theorem loss_anywhere_fails_pending (cb : Bytes) (fb : List Bytes) (sch0 sch : List Label) (c : Nat) :
    let s := run (init .fixed cb fb) sch0
    s.lst = .listening → s.serving = none →
    awaiting (s.calls c).phase = true → (s.calls c).fut = .unres →
    (s.inErr = true ∨ (s.eof = true ∧ decodeFrame s.inbuf = none)) →
    let s' := run s (.recv :: sch)
    s'.lst = .exited →
      (s'.calls c).fut = .failed .lost ∧
      ∀ o, (s'.calls c).phase = .done o → o = .exc .lost ∨ o = .sendErr := by
  intro s hl hsv ha hf hloss s' hex
  have hs : s' = run (s.lexit .lost) sch := by
    simp only [s', run, loss_detected s hl hsv hloss, Option.getD_some]
  rw [hs] at hex ⊢
  exact (reach_invB cb fb sch0).exit_fails_waiting hl ha hf hex

-- the stream ends 17 bytes into the answer to call 0 (inside the length field) and call 1 registers
-- in the middle of the cleanup: call 0 raises `lost`, the send of call 1 fails, nobody is blocked
example :
    let sch0 := [Label.check 0 false, .reg 0, .submit 0, .send 0, .drain 0, .check 1 false,
                 .feed ((encodeFrame 0 [9]).take 17), .eof]
    let s := run (init .fixed [] []) (sch0 ++ [.recv, .reg 1, .clr, .cl, .submit 1, .cl, .deliver 0, .send 1])
    (s.lst, (s.calls 0).phase, (s.calls 1).phase, s.pending, ioIdle s, anyBlocked s)
      = (.exited, .done (.exc .lost), .done .sendErr, [], true, false) := by decide

theorem InvB.unanswered_call_raised {s : St} (hB : InvB s) (hA : InvA s) (c : Nat) (hl : s.lst = .exited)
    (hio : ∀ l : Label, l.isIo = true → enabled s l = false)
    (h1 : (s.calls c).phase ≠ .idle) (h2 : (s.calls c).phase ≠ .checked)
    (h3 : (s.calls c).phase ≠ .registered) (hnd : ∀ r, (c, r) ∉ s.delivered) :
    ∃ o, (s.calls c).phase = .done o ∧ isOk o = false := by
  have hb := hB.ioIdle_not_blocked hl hio c
  cases hp : (s.calls c).phase with
  | idle => exact absurd hp h1
  | checked => exact absurd hp h2
  | registered => exact absurd hp h3
  | submitted | sent | waiting =>
    rw [hp] at hb
    simp [blocked] at hb
  | done o =>
    refine ⟨o, rfl, ?_⟩
    cases o with
    | ok r => exact absurd (hA.okDelivered c r hp) (hnd r)
    | _ => rfl

/-- **server_error_propagates**: a server-side evaluation error is not answered — the server
    closes the connection (probed live), i.e. no frame with the call's id is ever delivered.
    Then, once the listener has exited and the io loop has nothing left to run, the call has
    finished, and not with a value: it raised. -/
theorem server_error_propagates (cb : Bytes) (fb : List Bytes) (sch : List Label) (c : Nat) :
    let s := run (init .fixed cb fb) sch
    s.lst = .exited → (∀ l : Label, l.isIo = true → enabled s l = false) →
    (s.calls c).phase ≠ .idle → (s.calls c).phase ≠ .checked → (s.calls c).phase ≠ .registered →
    (∀ r, (c, r) ∉ s.delivered) →
    ∃ o, (s.calls c).phase = .done o ∧ isOk o = false := by
  intro s hl hio h1 h2 h3 hnd
  exact (reach_invB cb fb sch).unanswered_call_raised (reach_invA .fixed cb fb sch) c hl hio h1 h2 h3 hnd

/-- when the server goes away the listener always has a step to take (it cannot sit on EOF) -/
theorem eof_listener_progress (s : St) (hl : s.lst = .listening) (he : s.eof = true) :
    enabled s .recv = true ∨ enabled s .served = true := by
  cases hsv : s.serving with
  | some p =>
    -- every branch of `served` is a step: evaluation raised, writer broken, result sent
    refine .inr ?_
    simp only [enabled, step, hsv, hl, if_true]
    split
    · rfl
    · split <;> rfl
  | none =>
    refine .inl ?_
    simp only [enabled, step, hl, hsv, he, and_self, if_true]
    -- every arm of `recv` (order as in `recv_cases`) is a step, the one without a complete frame
    -- because of `eof`
    split
    · rfl
    · split
      · rfl
      · split
        · split <;> rfl
        · split
          · split <;> rfl
          · rfl

/-! ### the pinned cleanup loop violates `no_stuck_waiter` -/

/-- the schedule of DESIGN §8: call 0 is waiting, call 1 has passed `is_open()`; the connection
    is lost; the cleanup loop has created its iterator when call 1 registers -/
def stuckSchedule : List Label :=
  [.check 0 false, .reg 0, .submit 0, .send 0, .drain 0, .check 1 false, .eof, .recv, .reg 1, .cl,
   .submit 1, .send 1]

/-- **pinned_stuck_waiter**: every label of the schedule is enabled; the cleanup dies
    (`RuntimeError: dictionary changed size during iteration`), the io loop has nothing left to
    run, and call 0 is blocked on a future nobody will ever resolve -/
theorem pinned_stuck_waiter :
    (runStrict (init .pinned [] []) stuckSchedule).map
      (fun s => (s.lst, (s.calls 0).phase, (s.calls 0).fut, (s.calls 1).phase, ioIdle s, anyBlocked s))
    = some (.crashed, .waiting, .unres, .done .sendErr, true, true) := by decide

/-- the pinned machine fails the property stated with `lst ≠ .listening`: on `stuckSchedule` its
    cleanup ends `crashed`, not `exited`, so the form with `lst = .exited` of
    `no_stuck_waiter_decidable` does not see the stuck state -/
theorem pinned_no_stuck_waiter_fails :
    ¬ (∀ sch : List Label, let s := run (init .pinned [] []) sch
        s.lst ≠ .listening → ioIdle s = true → anyBlocked s = false) := by
  intro h
  have := h stuckSchedule
  revert this
  decide

/-- the same schedule on the repaired machine: label `cl` is not enabled where the pinned loop
    died (`clr` comes first), and with the repaired steps nobody is left blocked -/
example :
    (runStrict (init .fixed [] []) stuckSchedule).isNone = true ∧
    (let s := run (init .fixed [] [])
        [.check 0 false, .reg 0, .submit 0, .send 0, .drain 0, .check 1 false, .eof, .recv, .reg 1,
         .clr, .cl, .cl, .deliver 0, .submit 1, .send 1]
     (s.lst, (s.calls 0).phase, (s.calls 1).phase, ioIdle s, anyBlocked s)
       = (.exited, .done (.exc .lost), .done .sendErr, true, false)) := by decide

end Klong.C14
