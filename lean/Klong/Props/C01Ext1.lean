/-
  C01 extension 1 — implementation model (Klong.Model.C01Ext1: dyads.py / monads.py) = reference
  (refDyad / refMonad of Klong.Model.C01) wherever the reference is defined, for every list length,
  index and count.

  Hypotheses in the statements (all decidable):
  * `notStored x = false` — the literal `x` is what the interpreter holds (no regular numeric nest
    mixing integers and reals, no rank ≥ 2 object array); otherwise the model says `.unmodelled`;
  * `mixedNum v = false` — the reference result is no regular nest of numbers mixing integers and
    reals (numpy re-packs such a result as one float64 array: finding mixed-numeric-level);
  * `Res.isErr (implJoin a b) = false` — numpy does not raise while re-packing the joined members
    (`join_raises_witness`);
  * `matchDom`, `findDom` — the modelled classes of Match and Find, at their definitions.
  The reference leaves a character paired with a string undefined (`charStrClash`); klongpy identifies
  0ca with "a" there (`match_charstr_witness`).
-/
import Klong.Model.C01Ext1
import Klong.Props.C01Struct
namespace Klong.C01.Ext1
open Klong Klong.C01

def Res.isErr : Res → Bool
  | .err => true
  | _ => false

/-! ## the reference's verb table, verb by verb

  `refMonad` and `refDyad` are each one match over all verb strings, and the elaborator reduces a `match` only
  when all of it reduces: with the operand a variable nothing happens, and after `cases a` the verb strings are
  compared again for every constructor.  So each verb's equation is stated once, and proved without smart
  unfolding: the verb is decided once, and what is left of the reference's `match` on the operand is compared
  with the right side clause by clause. -/

section
set_option smartUnfolding false

theorem refMonad_first (a : Val) : refMonad "*" a =
    match a with
    | .list [] => some (.list [])
    | .list (x :: _) => some x
    | .str [] => some (.str [])
    | .str (c :: _) => some (.chr c)
    | a => some a := by
  rfl

theorem refMonad_size (a : Val) : refMonad "#" a =
    match a with
    | .list xs => some (.int xs.length)
    | .str cs => some (.int cs.length)
    | .int n => some (.int n.natAbs)
    | .real b => some (ofF (Float.abs (Float.ofBits b)))
    | .chr c => some (.int c)
    | _ => none := by
  rfl

theorem refMonad_enumerate (a : Val) : refMonad "!" a =
    match a with
    | .int n => if n < 0 then none else some (.list (refEnumerate n.toNat))
    | _ => none := by
  rfl

theorem refMonad_atom (a : Val) : refMonad "@" a = some (b2i a.isAtom) := by
  rfl

theorem refMonad_list (a : Val) : refMonad "," a =
    match a with
    | .chr c => some (.str [c])
    | a => some (.list [a]) := by
  rfl

theorem refMonad_not (a : Val) : refMonad "~" a =
    match a with
    | .int n => some (b2i (n == 0))
    | .real b => some (b2i (Float.ofBits b == 0))
    | .list [] => some (.int 1)
    | .str [] => some (.int 1)
    | .sym _ => some (.int 0)
    | .str (_ :: _) => some (.int 0)
    | .dict _ => some (.int 0)
    | .chr _ => some (.int 0)
    | _ => none := by
  rfl

theorem refDyad_join (a b : Val) : refDyad "," a b = refJoin a b := by
  rfl

theorem refDyad_index (a b : Val) : refDyad "@" a b = refIndex a b := by
  rfl

theorem refDyad_match (a b : Val) :
    refDyad "~" a b = if charStrClash a b then none else some (b2i (vmatch a b)) := by
  rfl

theorem refDyad_find_str (s : List Nat) (b : Val) : refDyad "?" (.str s) b =
    match b with
    | .chr c => some (.list (refFindElem (strChars s) (.chr c)))
    | .str t => some (.list (refFindSub s t))
    | _ => none := by
  rfl

theorem refDyad_find_list (es : List Val) (b : Val) : refDyad "?" (.list es) b =
    match b with
    | .list _ => none
    | .chr _ => none
    | .str _ => none
    | _ => some (.list (refFindElem es b)) := by
  rfl

end

theorem refDyad_cut (a b : Val) : refDyad ":_" a b =
    match a with
    | .int n => refDyad ":_" (.list [.int n]) b
    | .list psv =>
      match natList psv with
      | some ps =>
        if !(ps.zip (ps.drop 1)).all (fun (x, y) => x ≤ y) || ps.any (· > seqLen b) || seqLen b = 0 then none else
        match b with
        | .list xs => segs false (refCut ps xs)
        | .str cs => segs true (refCut ps (strChars cs))
        | _ => none
      | none => none
    | _ => none := by
  cases a with
  | int n =>
    -- the integer clause of the reference beside the list clause at `[n]`
    show (if n < 0 || n.toNat > seqLen b || seqLen b = 0 then none else _) =
      match natList [.int n] with
      | some ps => _
      | none => none
    by_cases hn : n < 0 <;> simp [natList, hn]
  | _ => rfl

/-! ## monads -/

theorem first_correct (a : Val) (h : notStored a = false) :
    implFirst a = lift (refMonad "*" a) := by
  rw [refMonad_first]
  cases a with
  | list xs => cases xs <;> simp_all [implFirst, lift]
  | str cs => cases cs <;> rfl
  | _ => rfl

theorem size_correct (a v : Val) (h : refMonad "#" a = some v) : implSize a = .ok v := by
  rw [refMonad_size] at h
  cases a <;> simp_all [implSize]

theorem enumerate_correct (a v : Val) (h : refMonad "!" a = some v) : implEnumerate a = .ok v := by
  rw [refMonad_enumerate] at h
  cases a <;> simp_all [implEnumerate]

theorem atom_correct (a : Val) : implAtom a = lift (refMonad "@" a) := by
  rw [refMonad_atom]
  cases a with
  | list xs => cases xs <;> rfl
  | str cs => cases cs <;> rfl
  | _ => rfl

theorem list_correct (a : Val) (h : notStored a = false) :
    implList a = lift (refMonad "," a) := by
  rw [refMonad_list]
  cases a <;> simp_all [implList, lift]

theorem not_correct (a v : Val) (h : refMonad "~" a = some v) (hs : notStored a = false) :
    implNot a = .ok v := by
  rw [refMonad_not] at h
  have : negDeep a = some v := by
    cases a with
    | list xs => cases xs <;> simp_all [negDeep]
    | str cs => cases cs <;> simp_all [negDeep, negAtom]
    | _ => simp_all [negDeep, negAtom]
  simp [implNot, hs, this]

/-! ## Cut -/

/-- `prev`: the last position cut at (0 at the start).  `array_split`'s slices between consecutive
    division points from `prev` on are what `refCut.go` cuts off what is left of `b` after `prev`. -/
theorem slices_eq_refCut_go {α} (b : List α) (ps : List Nat) (prev : Nat)
    (hc : (((prev :: ps).zip ps).all fun (x, y) => decide (x ≤ y)) = true)
    (hle : ∀ p ∈ ps, p ≤ b.length) (hp : prev ≤ b.length) :
    (divPairs ((prev : Int) :: ps.map (fun (p : Nat) => (p : Int)) ++ [(b.length : Int)])).map
        (fun p => slice b (some p.1) (some p.2))
      = refCut.go prev ps (b.drop prev) := by
  induction ps generalizing prev with
  | nil =>
    simp only [List.map_nil, List.cons_append, List.nil_append, divPairs, List.map_cons, refCut.go]
    rw [slice_mid hp (Nat.le_refl _), List.take_of_length_le (by simp)]
  | cons q r ih =>
    simp only [List.zip_cons_cons, List.all_cons, Bool.and_eq_true, decide_eq_true_eq] at hc
    have hq : q ≤ b.length := hle q (by simp)
    simp only [List.map_cons, List.cons_append, divPairs, refCut.go]
    have := ih q hc.2 (fun p hp => hle p (by simp [hp])) hq
    simp only [List.cons_append] at this
    rw [this, slice_mid hc.1 hq, List.drop_drop]
    congr 3
    omega

theorem cutSegs_correct {α} (b : List α) (ps : List Nat)
    (hc : ((ps.zip (ps.drop 1)).all fun (x, y) => decide (x ≤ y)) = true)
    (hle : ps.any (· > b.length) = false) (hn : b.length ≠ 0) :
    cutSegs (ps.map fun (p : Nat) => (p : Int)) b = refCut ps b := by
  simp only [cutSegs, npArraySplitAt, refCut, hn, false_and, if_false]
  have hle' : ∀ p ∈ ps, p ≤ b.length := fun p hp => by
    simpa using List.any_eq_false.mp hle p hp
  have hch : (((0 :: ps).zip ps).all fun (x, y) => decide (x ≤ y)) = true := by
    cases ps with
    | nil => rfl
    | cons q r =>
      simp only [List.zip_cons_cons, List.all_cons, Nat.zero_le, decide_true, Bool.true_and]
      exact hc
  simpa using slices_eq_refCut_go b ps 0 hch hle' (Nat.zero_le _)

theorem intList_of_natList {vs : List Val} {ps : List Nat} (h : natList vs = some ps) :
    intList vs = some (ps.map fun (p : Nat) => (p : Int)) := by
  -- the cases of `natList`: `[]` (1); `.int n :: r` with `n < 0` (2) or not (3); any other head (4)
  fun_induction natList vs generalizing ps with
  | case1 =>
    cases h
    rfl
  | case3 n r hn ih =>
    obtain ⟨qs, hr, rfl⟩ := Option.map_eq_some_iff.mp h
    simp only [intList, ih hr, List.map_cons, Option.map_some]
    congr 2
    omega
  | case2 | case4 => simp at h

theorem cut_list_correct {psv : List Val} {b v : Val} (h : refDyad ":_" (.list psv) b = some v)
    (hs : notStored b = false) : implCut (.list psv) b = .ok v := by
  simp only [refDyad_cut] at h
  cases hp : natList psv with
  | none => simp [hp] at h
  | some ps =>
    simp only [hp] at h
    obtain ⟨hc, h⟩ := Option.ite_none_left_eq_some.mp h
    simp only [Bool.or_eq_true, Bool.not_eq_true', decide_eq_true_eq, not_or, Bool.not_eq_false] at hc
    obtain ⟨⟨h0, h1⟩, h2⟩ := hc
    have key : ∀ es : List Val, es.length = seqLen b →
        cutSegs (ps.map fun (p : Nat) => (p : Int)) es = refCut ps es := fun es he =>
      cutSegs_correct es ps h0 (by simpa [he] using h1) (by simpa [he] using h2)
    simp only [implCut, intList_of_natList hp, hs, Bool.false_eq_true, if_false]
    cases b with
    | list xs | str cs =>
      simp only at h ⊢
      rw [key, h]
      · rfl
      · simp [strChars, seqLen]
    | _ => simp at h

/-- **cut_correct**: wherever the reference defines Cut (monotone positions within a non-empty
    list / string) the `np.array_split` model returns the reference's segments -/
theorem cut_correct (a b v : Val) (h : refDyad ":_" a b = some v) (hs : notStored b = false) :
    implCut a b = .ok v := by
  cases a with
  | int n =>
    rw [refDyad_cut] at h
    -- `implCut (.int n) b` unfolds to `implCut (.list [.int n]) b`: line 133, `a = [a]`
    exact cut_list_correct h hs
  | list psv => exact cut_list_correct h hs
  | _ => simp [refDyad_cut] at h

/-! ## At/Index -/

theorem npCoerce_id {v : Val} (h : mixedNum v = false) : npCoerce v = v := by
  simp [npCoerce, h]

theorem pyIndex_nat {α} (es : List α) (i : Nat) : pyIndex es (i : Int) = es[i]? := by
  unfold pyIndex
  have : ¬ ((i : Int) < 0) := by omega
  simp [this]

theorem mapM_pyIndex (es : List Val) (is : List Nat) :
    (is.map fun (p : Nat) => (p : Int)).mapM (pyIndex es) = is.mapM (fun i => es[i]?) := by
  induction is with
  | nil => rfl
  | cons i r ih => simp only [List.map_cons, List.mapM_cons, pyIndex_nat, ih]

theorem indexSeq_correct {j : Bool} {a : Val} {es : List Val} {b v : Val}
    (h : (match b with
      | .int i => if i < 0 then none else es[i.toNat]?
      | .list ixs =>
        match natList ixs with
        | some is => (is.mapM fun i => es[i]?).bind (reseq j)
        | none => none
      | _ => none) = some v)
    (hm : mixedNum v = false) : implIndexSeq j a es b = .ok v := by
  cases b with
  | int i =>
    obtain ⟨hi, h⟩ := Option.ite_none_left_eq_some.mp h
    have e : i = ((i.toNat : Nat) : Int) := by omega
    rw [implIndexSeq, e, pyIndex_nat, h]
    rfl
  | list ixs =>
    simp only at h
    cases hp : natList ixs with
    | none => simp [hp] at h
    | some is =>
      simp only [hp] at h
      obtain ⟨rs, hr, hv⟩ := Option.bind_eq_some_iff.mp h
      cases ixs with
      | nil =>
        cases hp
        cases hr
        cases j <;> cases hv <;> rfl
      | cons x r =>
        simp only [implIndexSeq, intList_of_natList hp, mapM_pyIndex, hr]
        cases j with
        | true =>
          simp only [reseq, if_true] at hv
          simp [hv, lift]
        | false =>
          cases hv
          rw [npCoerce_id hm]
          rfl
  | _ => simp at h

/-- **index_correct**: for a list or string `a` and an in-range non-negative index / a list
    (possibly empty) of such indices, Python / numpy indexing returns the reference's element(s);
    excluded: results that numpy re-packs as one float array (`mixedNum v`) -/
theorem index_correct (a b v : Val) (h : refDyad "@" a b = some v) (hs : notStored a = false)
    (hm : mixedNum v = false) : implIndex a b = .ok v := by
  simp only [refDyad_index, refIndex] at h
  cases a with
  | list es | str cs =>
    simp only [seqElems] at h
    simp only [implIndex, hs, Bool.false_eq_true, if_false]
    exact indexSeq_correct h hm
  | _ => simp [seqElems] at h

/-! ## Join -/

/-- the reference Join in the shape of dyads.py 555–586 -/
theorem refJoin_eq (a b : Val) : refJoin a b =
    match strOf a, strOf b with
    | some s, some t => some (.str (s ++ t))
    | _, _ =>
      match a, b with
      | .dict _, _ => none
      | _, .dict _ => none
      | _, _ => some (.list (arrToList a ++ arrToList b)) := by
  cases a <;> cases b <;> rfl

theorem joinGeneral_cases (members : List Val) (hm : mixedNum (.list members) = false) :
    joinGeneral members = .ok (.list members) ∨ joinGeneral members = .err := by
  unfold joinGeneral
  simp only
  split
  · rw [npCoerce_id hm]
    exact .inl rfl
  · split
    · exact .inr rfl
    · exact .inl rfl

theorem implJoin_cases {a b v : Val} (h : refJoin a b = some v)
    (hs : notStored a = false) (ht : notStored b = false) (hm : mixedNum v = false) :
    implJoin a b = .ok v ∨ implJoin a b = .err := by
  rw [refJoin_eq] at h
  simp only [implJoin, hs, ht, Bool.or_self, Bool.false_eq_true, if_false]
  -- `h` goes through the arms of the reference (`refJoin_eq`), the goal through those of `implJoin`
  split at h
  · -- 555–556: text with text
    rename_i s t hsa hsb
    cases h
    simp [hsa, hsb]
  · rename_i hno
    split
    · rename_i s t hsa hsb
      exact (hno s t hsa hsb).elim
    split at h
    · -- a dictionary on the left, on the right: the reference is undefined
      cases h
    · cases h
    · rename_i hda hdb
      cases h
      split
      · exact (hda _ rfl).elim
      · exact (hdb _ rfl).elim
      · -- 564–572: both arrays
        rename_i xs ys
        simp only [arrToList] at hm ⊢
        split
        · -- 569–570: the left one is empty
          rename_i hx
          simp [List.eq_nil_of_length_eq_zero hx]
        · split
          · -- 571–572: same rank and last dimension, np.concatenate
            split
            · rw [npCoerce_id hm]
              exact .inl rfl
            · exact .inr rfl
          · exact joinGeneral_cases _ hm
      · -- an atom on one side
        exact joinGeneral_cases _ hm

/-- **join_correct**: wherever the reference defines Join and its value is no mixed integer/real
    nest (`hm`), `eval_dyad_join` returns that value unless numpy raises while re-packing (`hr`) -/
theorem join_correct (a b v : Val) (h : refDyad "," a b = some v)
    (hs : notStored a = false) (ht : notStored b = false)
    (hr : Res.isErr (implJoin a b) = false) (hm : mixedNum v = false) :
    implJoin a b = .ok v := by
  rw [refDyad_join] at h
  rcases implJoin_cases h hs ht hm with h1 | h1
  · exact h1
  · rw [h1] at hr
    cases hr

/-! ## Find in a string -/

/-- all match positions of `sub` in `rest`, offset `j` (specification of the finditer loop) -/
def matchesFrom (sub : List Nat) : List Nat → Nat → List Nat
  | [], j => if isPrefix sub [] then [j] else []
  | c :: t, j => (if isPrefix sub (c :: t) then [j] else []) ++ matchesFrom sub t (j + 1)

theorem matchesFrom_pyFindFrom (sub rest : List Nat) (j : Nat) :
    (pyFindFrom sub rest j = none → matchesFrom sub rest j = []) ∧
    ∀ k, pyFindFrom sub rest j = some k → j ≤ k ∧ k - j ≤ rest.length ∧
      matchesFrom sub rest j =
        k :: (if k - j < rest.length then matchesFrom sub (rest.drop (k - j + 1)) (k + 1) else []) := by
  -- the cases of `pyFindFrom`: the end of the string, `sub` empty (1) or not (2); `c :: t` with `sub` a
  -- prefix (3) or not (4)
  fun_induction pyFindFrom sub rest j with
  | case1 j hp | case2 j hp => simp [matchesFrom, hp]
  | case3 c t j hp => simp [matchesFrom, hp]
  | case4 c t j hp ih =>
    refine ⟨fun h => by simp [matchesFrom, hp, ih.1 h], fun k h => ?_⟩
    obtain ⟨h1, h2, h3⟩ := ih.2 k h
    refine ⟨by omega, by simp; omega, ?_⟩
    simp only [matchesFrom, hp, Bool.false_eq_true, if_false, List.nil_append, h3, List.length_cons]
    have e : k - j = (k - (j + 1)) + 1 := by omega
    rw [e]
    simp only [List.drop_succ_cons, Nat.add_lt_add_iff_right]

theorem matchesFrom_filter (sub rest : List Nat) (j : Nat) :
    matchesFrom sub rest j =
      ((List.range (rest.length + 1)).filter fun i => isPrefix sub (rest.drop i)).map (· + j) := by
  induction rest generalizing j with
  | nil => by_cases h : isPrefix sub [] = true <;> simp [matchesFrom, h]
  | cons c t ih =>
    -- position 0, then the positions in `t` shifted by one
    rw [matchesFrom, ih, List.length_cons, List.range_succ_eq_map (n := t.length + 1), List.filter_cons,
      List.filter_map]
    by_cases h : isPrefix sub (c :: t) = true <;> simp [h, Function.comp_def, Nat.add_assoc, Nat.add_comm 1]

/-- the fuel `s.length + 2` of `implFind` suffices: every round but the last moves `i` past a match,
    so from `i` there are at most `s.length + 1 - i` matches and one failing `find` -/
theorem finditer_eq (s sub : List Nat) (fuel i : Nat) (h1 : i ≤ s.length) (h2 : s.length + 2 ≤ fuel + i) :
    finditer fuel s sub i = matchesFrom sub (s.drop i) i := by
  induction fuel generalizing i with
  | zero => omega
  | succ f ih =>
    simp only [finditer, pyFind]
    have hi : ¬ i > s.length := by omega
    simp only [hi, if_false]
    cases hf : pyFindFrom sub (s.drop i) i with
    | none => simp [(matchesFrom_pyFindFrom sub (s.drop i) i).1 hf]
    | some k =>
      obtain ⟨k1, k2, k3⟩ := (matchesFrom_pyFindFrom sub (s.drop i) i).2 k hf
      simp only [List.length_drop] at k2 k3
      rw [k3]
      simp only [List.cons.injEq, true_and]
      split
      · rename_i hlt
        rw [ih (k + 1) (by omega) (by omega), List.drop_drop]
        congr 2
        omega
      · -- the last match is at the end of the string: the next `find` starts beyond it
        cases f with
        | zero => rfl
        | succ f' =>
          have : k + 1 > s.length := by omega
          simp [finditer, pyFind, this]

theorem isPrefix_length (b r : List Nat) (h : isPrefix b r = true) : b.length ≤ r.length := by
  -- the cases of `isPrefix`: `b` empty (1); `r` empty first (2); both non-empty (3)
  fun_induction isPrefix b r with
  | case1 => exact Nat.zero_le _
  | case2 => cases h
  | case3 x b y r ih =>
    simp only [Bool.and_eq_true] at h
    exact Nat.succ_le_succ (ih h.2)

theorem finditer_correct (s sub : List Nat) :
    (finditer (s.length + 2) s sub 0).map natVal = refFindSub s sub := by
  rw [finditer_eq s sub _ 0 (by omega) (by omega), List.drop_zero, matchesFrom_filter]
  unfold refFindSub
  simp only [Nat.add_zero, List.map_id']
  -- a prefix of `s[i:]` is no longer than `s[i:]`: the reference's length test adds nothing
  refine congrArg _ (List.filter_congr fun i hi => ?_)
  have hi' := List.mem_range.mp hi
  by_cases h : isPrefix sub (s.drop i) = true
  · have := isPrefix_length _ _ h
    simp only [List.length_drop] at this
    simp [h]
    omega
  · simp [h]

/-- the reference finds a character where the one-character string matches -/
theorem findChr_eq (c : Nat) (rest : List Nat) (j : Nat) :
    (((strChars rest).zipIdx j).filter fun p => vmatch p.1 (.chr c)).map (fun p => Val.int (p.2 : Nat))
      = (matchesFrom [c] rest j).map natVal := by
  induction rest generalizing j with
  | nil => simp [strChars, matchesFrom, isPrefix]
  | cons x t ih =>
    have := ih (j + 1)
    simp only [strChars] at this
    simp only [strChars, List.map_cons, List.zipIdx_cons, List.filter_cons, vmatch_chr, matchesFrom, isPrefix,
      Bool.and_true]
    by_cases h : x = c <;> simp [h, eq_comm (a := c), this, natVal]

/-- **find_str_correct**: Find in a string (a character or a substring, the empty string
    included): the `finditer` loop over `str.find` returns the reference's positions -/
theorem find_str_correct (s : List Nat) (b v : Val) (h : refDyad "?" (.str s) b = some v) :
    implFind (.str s) b = .ok v := by
  rw [refDyad_find_str] at h
  cases b with
  | chr c =>
    cases h
    unfold implFind
    simp only [pyStr, refFindElem]
    rw [finditer_eq s [c] _ 0 (by omega) (by omega), List.drop_zero, ← findChr_eq]
  | str t =>
    cases h
    unfold implFind
    simp only [pyStr, finditer_correct]
  | _ => simp at h

/-! ## Match -/

/- the excluded pairing: somewhere in the paired traversal a character meets the one-character
   string of that character (KGChar is a Python str: klongpy identifies them) -/
mutual
def charStrPair : Val → Val → Bool
  | .list xs, .list ys => charStrPairL xs ys
  | .chr c, .str s => s == [c]
  | .str s, .chr c => s == [c]
  | _, _ => false
def charStrPairL : List Val → List Val → Bool
  | x :: xs, y :: ys => charStrPair x y || charStrPairL xs ys
  | _, _ => false
end

/- the modelled class of Match / Find-by-kg_equal: no reals (np.isclose on floats is not modelled), no
   dictionaries, object (non-numeric) lists shorter than 128 (from there kg_equal tries np.array_equal first) -/
mutual
def matchDom : Val → Bool
  | .real _ => false
  | .dict _ => false
  | .list xs => (isIntArr (.list xs) || decide (xs.length < 128)) && matchDomL xs
  | _ => true
def matchDomL : List Val → Bool
  | [] => true
  | x :: xs => matchDom x && matchDomL xs
end

theorem matchDom_list {xs : List Val} (h : matchDom (.list xs) = true) :
    (isIntArr (.list xs) = true ∨ xs.length < 128) ∧ matchDomL xs = true := by
  simpa [matchDom] using h

theorem matchDomL_eq_all (es : List Val) : matchDomL es = es.all matchDom := by
  induction es with
  | nil => rfl
  | cons y ys ih => simp [matchDomL, ih]

mutual
theorem matchDom_noReal : ∀ (v : Val), matchDom v = true → hasReal v = false
  | .list xs, h => matchDomL_noReal xs (matchDom_list h).2
  | .real _, h => nomatch h
  | .int _, _ | .chr _, _ | .sym _, _ | .str _, _ | .dict _, _ | .undef, _ => rfl
theorem matchDomL_noReal : ∀ (xs : List Val), matchDomL xs = true → hasRealL xs = false
  | [], _ => rfl
  | x :: xs, h => by
    simp only [matchDomL, Bool.and_eq_true] at h
    simp only [hasRealL, matchDom_noReal x h.1, matchDomL_noReal xs h.2, Bool.or_self]
end

theorem hasRealL_eq_any (xs : List Val) : hasRealL xs = xs.any hasReal := by
  induction xs with
  | nil => rfl
  | cons y ys ih => simp [hasRealL, ih]

theorem toF_int_of_noReal {a : Val} {x : Float} (h : toF a = some x) (hr : hasReal a = false) :
    ∃ n, a = .int n := by
  cases a <;> simp_all [toF, hasReal]

theorem beq_def (a b : Val) : (a == b) = Val.beq a b := rfl

/-- without reals the reference Match is structural equality (what `np.array_equal` computes on
    integer arrays) -/
theorem beq_eq_vmatch :
    (∀ a b : Val, hasReal a = false → hasReal b = false → Val.beq a b = vmatch a b) ∧
    (∀ xs ys : List Val, hasRealL xs = false → hasRealL ys = false →
      Val.beqList xs ys = vmatchL xs ys) := by
  -- the clauses of `vmatch`, then of `vmatchL`, in the order written: two lists; two integers; two numbers, not
  -- both integers (`hne`); not two numbers (`h`); `[]`, `[]`; two conses; one list longer (`h`: neither shape)
  apply vmatch.mutual_induct
  · intro xs ys ih ha hb
    simpa [Val.beq, vmatch] using ih (by simpa [hasReal] using ha) (by simpa [hasReal] using hb)
  · intro a b _ _
    simp [Val.beq, vmatch]
  · -- without reals there is no such pair
    intro a b _ hne x y hy hx ha hb
    obtain ⟨n, rfl⟩ := toF_int_of_noReal hx ha
    obtain ⟨m, rfl⟩ := toF_int_of_noReal hy hb
    exact (hne n m rfl rfl).elim
  · intro a b _ _ h _ _
    rw [vmatch]
    · split
      · rename_i x y hx hy
        exact (h x y hx hy).elim
      · rfl
    · assumption
    · assumption
  · intros
    rfl
  · intro x xs y ys ih1 ih2 ha hb
    simp only [hasRealL, Bool.or_eq_false_iff] at ha hb
    simp [Val.beqList, vmatchL, ih1 ha.1 hb.1, ih2 ha.2 hb.2]
  · intro xs ys _ h _ _
    cases xs <;> cases ys <;> first | rfl | exact (h _ _ _ _ rfl rfl).elim

theorem beqL_intArr : ∀ (xs ys : List Val),
    (∀ x ∈ xs, (numShape x).isSome = true ∧ hasReal x = false) →
    (∀ y ∈ ys, (numShape y).isSome = true ∧ hasReal y = false) → Val.beqList xs ys = vmatchL xs ys := by
  intro xs ys hx hy
  apply beq_eq_vmatch.2 <;> simp only [hasRealL_eq_any, List.any_eq_false, Bool.not_eq_true]
  · exact fun x h => (hx x h).2
  · exact fun y h => (hy y h).2

theorem vmatchL_length : ∀ (xs ys : List Val), xs.length ≠ ys.length → vmatchL xs ys = false
  | [], [], h => (h rfl).elim
  | [], _ :: _, _ | _ :: _, [], _ => rfl
  | x :: xs, y :: ys, h => by
    simp only [vmatchL, vmatchL_length xs ys (by simpa using h), Bool.and_false]

/-- `kg_equal` outside its list-against-list clause.  Pair of kinds by pair of kinds: both sides compute, or the
    pair is outside `matchDom`, or it is a character against a string, which `==` tells apart outside
    `charStrPair` only -/
theorem kgEqual_atom {a b : Val} (h : ∀ xs ys, a = .list xs → b = .list ys → False)
    (ha : matchDom a = true) (hb : matchDom b = true) (hc : charStrPair a b = false) :
    kgEqual a b = some (vmatch a b) := by
  cases a <;> cases b <;> first | rfl | simp_all [kgEqual, atomEq, matchDom, charStrPair]
  case chr.str => exact beq_eq_false_iff_ne.mpr fun e => hc e.symm
  case str.chr => exact beq_eq_false_iff_ne.mpr hc

theorem kgEqual_correct :
    (∀ (a b : Val), matchDom a = true → matchDom b = true → charStrPair a b = false →
      kgEqual a b = some (vmatch a b)) ∧
    (∀ (xs ys : List Val), matchDomL xs = true → matchDomL ys = true → charStrPairL xs ys = false →
      xs.length = ys.length → kgEqualL xs ys = some (vmatchL xs ys)) := by
  -- by the clauses of the reference, as in `beq_eq_vmatch`; `h` in the two cases after the integers: not two lists
  apply vmatch.mutual_induct
  · -- two lists: the clauses of lines 415–456 in turn
    intro xs ys ih ha hb hc
    have ra := matchDom_noReal _ ha
    have rb := matchDom_noReal _ hb
    rw [kgEqual, vmatch, if_neg (by simp [isRealArr, ra, rb])]
    by_cases hi : (isIntArr (.list xs) && isIntArr (.list ys)) = true
    · -- two integer arrays: np.array_equal
      rw [if_pos hi, beq_eq_vmatch.2 xs ys ra rb]
    -- object arrays of size ≥ 128 are outside the domain
    have hobj : ¬ (!isIntArr (.list xs) && !isIntArr (.list ys) && decide (xs.length ≥ 128)) = true := by
      rcases (matchDom_list ha).1 with h | h
      · simp [h]
      · simp [Nat.not_le.mpr h]
    rw [if_neg hi, if_neg hobj]
    by_cases hl : xs.length = ys.length
    · rw [if_neg (by simpa using hl)]
      exact ih (matchDom_list ha).2 (matchDom_list hb).2 hc hl
    · rw [if_pos (by simpa using hl), vmatchL_length xs ys hl]
  · intro a b
    exact kgEqual_atom nofun
  · intro a b h _ _ _ _ _
    exact kgEqual_atom h
  · intro a b h _ _
    exact kgEqual_atom h
  · intros
    rfl
  · -- all(...) stops at the first member that differs
    intro x xs y ys ih1 ih2 ha hb hc hl
    simp only [matchDomL, Bool.and_eq_true] at ha hb
    simp only [charStrPairL, Bool.or_eq_false_iff] at hc
    rw [kgEqualL, ih1 ha.1 hb.1 hc.1, vmatchL]
    cases vmatch x y
    · rfl
    · exact ih2 ha.2 hb.2 hc.2 (by simpa using hl)
  · -- neither (`h1`, `h2`): the lengths differ, against `hl`
    intro xs ys h1 h2 _ _ _ hl
    cases xs <;> cases ys
    · exact (h1 rfl rfl).elim
    · simp at hl
    · simp at hl
    · exact (h2 _ _ _ _ rfl rfl).elim

/-- the reference's undefined class (any character paired with any string) contains the pairing
    on which kg_equal deviates -/
theorem pair_of_noClash :
    (∀ a b : Val, charStrClash a b = false → charStrPair a b = false) ∧
    (∀ xs ys : List Val, charStrClash.clashL xs ys = false → charStrPairL xs ys = false) := by
  -- by the clauses of `charStrPair`, then of `charStrPairL`, in the order written; a character and a string
  -- clash (2, 3); `h1`, `h2`, `h3` in 4: none of the three above
  apply charStrPair.mutual_induct
  · intro xs ys ih h
    simpa [charStrPair] using ih (by simpa [charStrClash] using h)
  · nofun
  · nofun
  · intro a b h1 h2 h3 _
    rw [charStrPair] <;> assumption
  · intro x xs y ys ih1 ih2 h
    simp only [charStrClash.clashL, Bool.or_eq_false_iff] at h
    simp [charStrPairL, ih1 h.1, ih2 h.2]
  · intro xs ys h _
    rw [charStrPairL]
    exact h

theorem pairL_of_noClash : ∀ (xs ys : List Val), charStrClash.clashL xs ys = false → charStrPairL xs ys = false :=
  pair_of_noClash.2

/-- **match_correct**: wherever the reference defines Match, on values inside `matchDom`: `kg_equal`
    (array_equal on integer arrays, member-wise `all(...)` on object arrays, `==` on atoms) is the
    reference Match, for every nesting depth and length -/
theorem match_correct (a b v : Val) (h : refDyad "~" a b = some v)
    (hs : notStored a = false) (ht : notStored b = false)
    (ha : matchDom a = true) (hb : matchDom b = true) :
    implMatch a b = .ok v := by
  rw [refDyad_match] at h
  obtain ⟨hcl, h⟩ := Option.ite_none_left_eq_some.mp h
  cases h
  have hc := pair_of_noClash.1 a b ((Bool.not_eq_true _).mp hcl)
  simp only [implMatch, hs, ht, Bool.or_self, Bool.false_eq_true, if_false, kgEqual_correct.1 a b ha hb hc]

/-! ## Find in a list -/

theorem numShapes_eq_map (xs : List Val) : numShape.numShapes xs = xs.map numShape := by
  induction xs with
  | nil => rfl
  | cons y ys ih => simp [numShape.numShapes, ih]

theorem numShape_elems {y : Val} {ys : List Val} {s : List Nat}
    (h : numShape (.list (y :: ys)) = some s) :
    ∃ t, s = (y :: ys).length :: t ∧ ∀ x ∈ y :: ys, numShape x = some t := by
  simp only [numShape, numShapes_eq_map] at h
  split at h
  · simp at h
  · rename_i t hy
    obtain ⟨hall, h⟩ := Option.ite_none_right_eq_some.mp h
    exact ⟨t, by simpa using h.symm, by simpa [hy] using hall⟩

theorem isNum_of_numShape_nil {z : Val} (h : numShape z = some []) : z.isNum = true := by
  cases z with
  | list zs =>
    cases zs with
    | nil => cases h
    | cons w ws =>
      obtain ⟨t, ht, _⟩ := numShape_elems h
      simp at ht
  | _ => simp_all [numShape, Val.isNum]

theorem isNum_of_mem_rank1 {es : List Val} {s : List Nat} (h : numShape (.list es) = some s)
    (h1 : s.length = 1) : ∀ x ∈ es, x.isNum = true := by
  cases es with
  | nil => nofun
  | cons y ys =>
    obtain ⟨t, rfl, hel⟩ := numShape_elems h
    obtain rfl : t = [] := by simpa using h1
    exact fun x hx => isNum_of_numShape_nil (hel x hx)

theorem numEq_vmatch {x b : Val} (hx : x.isNum = true) (hb : isListVal b = false) :
    numEq x b = vmatch x b := by
  cases x <;> cases hx <;> cases b <;> first | rfl | cases hb

theorem findEq_vmatch {b : Val} {es : List Val} (i : Nat)
    (h : ∀ x ∈ es, kgEqual x b = some (vmatch x b)) :
    findEq b es i = some (((es.zipIdx i).filter fun p => vmatch p.1 b).map fun p => Val.int (p.2 : Nat)) := by
  induction es generalizing i with
  | nil => rfl
  | cons x xs ih =>
    simp only [findEq, h x (by simp), ih (i + 1) (fun y hy => h y (by simp [hy])), List.zipIdx_cons,
      List.filter_cons]
    cases vmatch x b <;> simp [natVal]

/-- the operand class of find_list_correct: `b` is no dictionary; `es` is a rank-1 numeric array
    (`np.where(a == b)`, reals included), or its members and `b` are inside `matchDom` (`kg_equal` per member) -/
def findDom (es : List Val) (b : Val) : Bool :=
  (match b with | .dict _ => false | _ => true) &&
  (((numShape (.list es)).isSome && (arrShape (.list es)).length == 1) || (matchDomL es && matchDom b))

/-- **find_list_correct**: Find of an atom in a list returns the reference's positions -/
theorem find_list_correct (es : List Val) (b v : Val) (h : refDyad "?" (.list es) b = some v)
    (hs : notStored (.list es) = false) (ht : notStored b = false) (hd : findDom es b = true) :
    implFind (.list es) b = .ok v := by
  rw [refDyad_find_list] at h
  -- `b` is no list, character or string: it is paired with no character or string either
  obtain ⟨hb, hl, rfl⟩ :
      (∀ x, charStrPair x b = false) ∧ isListVal b = false ∧ v = .list (refFindElem es b) := by
    cases b <;> cases h <;> exact ⟨fun x => by cases x <;> rfl, rfl, rfl⟩
  simp only [findDom, Bool.and_eq_true, Bool.or_eq_true, beq_iff_eq] at hd
  unfold implFind
  simp only [hs, ht, Bool.or_self, Bool.false_eq_true, if_false]
  split
  · simp at hd
  simp only [hl, Bool.false_or]
  split
  · -- line 342: kg_equal per member; the first class of `findDom` would have taken line 343
    rename_i hc
    have hdom : matchDomL es = true ∧ matchDom b = true := by
      rcases hd.2 with h1 | h1
      · simp [h1.2, Option.isSome_iff_ne_none.mp h1.1] at hc
      · exact h1
    have hall : ∀ x ∈ es, kgEqual x b = some (vmatch x b) := fun x hx =>
      kgEqual_correct.1 x b (List.all_eq_true.mp (matchDomL_eq_all es ▸ hdom.1) x hx) hdom.2
        (hb x)
    rw [findEq_vmatch 0 hall]
    rfl
  · -- line 343: np.where on a rank-1 numeric array, whose members are numbers
    rename_i hc
    simp only [Bool.or_eq_true, bne_iff_ne, ne_eq, not_or, Decidable.not_not,
      Option.isNone_iff_eq_none] at hc
    obtain ⟨s, hn⟩ := Option.ne_none_iff_exists'.mp hc.2
    have hnum := isNum_of_mem_rank1 hn (by simpa [arrShape, hn] using hc.1)
    have hall : ∀ p ∈ es.zipIdx, numEq p.1 b = vmatch p.1 b := fun p hp =>
      numEq_vmatch (hnum p.1 (List.fst_mem_of_mem_zipIdx hp)) hl
    simp only [npWhereEq, refFindElem, List.filter_congr hall]
    rfl

/-! ## witnesses: what the code does where the reference is silent or differs -/

def _root_.Klong.C01.Res.is (r : Res) (v : Val) : Bool :=
  match r with
  | .ok w => w == v
  | _ => false

private def i (n : Int) : Val := .int n
private def half : Val := .real 0x3FE0000000000000      -- 0.5

/-- negative indices count from the end (the reference leaves them undefined) -/
theorem index_negative_witness :
    (implIndex (.list [i 1, i 2, i 3]) (i (-1))).is (i 3) = true ∧
    (implIndex (.str [97, 98, 99]) (.list [i 0, i (-1)])).is (.str [97, 99]) = true ∧
    Res.isErr (implIndex (.list [i 1, i 2, i 3]) (i (-4))) = true ∧
    (refIndex (.list [i 1, i 2, i 3]) (i (-1))).isNone = true := by decide

/-- an empty index list yields an empty list / string; a non-integer atom index returns `a` itself -/
theorem index_degenerate_witness :
    (implIndex (.str [97, 98]) (.list [])).is (.str []) = true ∧
    (implIndex (.list [i 1, i 2]) (.sym [97])).is (.list [i 1, i 2]) = true := by decide

/-- deviation (finding mixed-numeric-level): [1 "a" 0.5]@[0 2] is re-packed as a float array -/
theorem index_mixed_witness :
    (match implIndex (.list [i 1, .str [97], half]) (.list [i 0, i 2]) with
     | .ok (.list [.real _, .real _]) => true | _ => false) = true ∧
    (match refIndex (.list [i 1, .str [97], half]) (.list [i 0, i 2]) with
     | some (.list [.int 1, .real _]) => true | _ => false) = true := by decide

/-- deviation (same finding): 1,0.5 is [1.0 0.5] -/
theorem join_mixed_witness :
    (match implJoin (i 1) half with | .ok (.list [.real _, .real _]) => true | _ => false) = true ∧
    (match refJoin (i 1) half with | some (.list [.int 1, .real _]) => true | _ => false) = true := by decide

/-- deviation: numpy raises while re-packing [[1 2]],[[[3 4] [5 6]]] (members agree on the leading
    dimension only) and in np.concatenate for rank-3 operands with different middle dimensions;
    the reference appends -/
theorem join_raises_witness :
    Res.isErr (implJoin (.list [.list [i 1, i 2]]) (.list [.list [.list [i 3, i 4], .list [i 5, i 6]]])) = true ∧
    (refJoin (.list [.list [i 1, i 2]]) (.list [.list [.list [i 3, i 4], .list [i 5, i 6]]])).isSome = true ∧
    Res.isErr (implJoin (.list [.list [.list [i 1, i 2], .list [i 3, i 4], .list [i 5, i 6]]])
      (.list [.list [.list [i 1, i 2]]])) = true := by decide

/-- klongpy identifies a character with the one-character string (KGChar is a str) -/
theorem match_charstr_witness :
    (implMatch (.chr 97) (.str [97])).is (i 1) = true ∧ vmatch (.chr 97) (.str [97]) = false ∧
    (implFind (.list [.chr 97, .chr 98]) (.str [97])).is (.list [i 0]) = true := by decide

/-- Python slicing semantics of np.array_split outside the reference's domain -/
theorem cut_outside_witness :
    (implCut (i (-1)) (.list [i 1, i 2, i 3, i 4])).is (.list [.list [i 1, i 2, i 3], .list [i 4]]) = true ∧
    (implCut (.list [i 3, i 1]) (.list [i 1, i 2, i 3, i 4])).is
      (.list [.list [i 1, i 2, i 3], .list [], .list [i 2, i 3, i 4]]) = true ∧
    (implCut (i 0) (.list [])).is (.list [.list []]) = true ∧
    (implCut (i 0) (.str [])).is (.list [.str []]) = true := by decide

/-- non-vacuity: the manual's examples -/
theorem examples_witness :
    (implCut (.list [i 2, i 3, i 5]) (.str [97, 98, 99, 100, 101, 102])).is
      (.list [.str [97, 98], .str [99], .str [100, 101], .str [102]]) = true ∧
    (implCut (.list [i 1, i 1]) (.list [i 1, i 2])).is (.list [.list [i 1], .list [], .list [i 2]]) = true ∧
    (implJoin (.chr 97) (.str [98, 99])).is (.str [97, 98, 99]) = true ∧
    (implJoin (.list [.list [i 1, i 2, i 3]]) (i 4)).is (.list [.list [i 1, i 2, i 3], i 4]) = true ∧
    (implFind (.str [120, 121, 121, 121, 121, 122]) (.str [121, 121])).is (.list [i 1, i 2, i 3]) = true ∧
    (implFind (.str []) (.str [])).is (.list [i 0]) = true ∧
    (implFind (.list [i 1, i 2, i 3, i 1, i 2, i 1]) (i 1)).is (.list [i 0, i 3, i 5]) = true ∧
    (implFind (.list [i 1, .list [i 2], i 3]) (.list [i 2])).is (.list [i 1]) = true ∧
    (implMatch (.list [i 1, .list [i 2], i 3]) (.list [i 1, .list [i 4], i 3])).is (i 0) = true ∧
    (implMatch (i 100000) (i 100001)).is (i 0) = true ∧
    (implMonad "!" (i (-3))).is (.list []) = true ∧
    (implMonad "~" (.str [97, 98])).is (i 0) = true ∧
    (implMonad "~" (.list [i 0, .list [i 1, i 0]])).is (.list [i 1, .list [i 0, i 1]]) = true ∧
    (implMonad "#" (.sym [97, 98])).is (i 2) = true := by decide

end Klong.C01.Ext1
