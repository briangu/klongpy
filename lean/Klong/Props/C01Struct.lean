/-
  C01 — structural verbs: implementation model (Python slicing / tile / concatenate / roll
  index arithmetic) = reference, for every list length and every integer count.  The theorems are
  about the list functions (`implTake`, `refTake`, …) at any element type; how `implDyad` /
  `refDyad` apply them to a list or a string (`onSeq`, `segs`) is not stated.
-/
import Klong.Model.C01
namespace Klong.C01

/-! ### Python slicing -/

theorem pyClamp_of_nonneg (n : Nat) {i : Int} (h : 0 ≤ i) : pyClamp n i = min i.toNat n := by
  simp [pyClamp, Int.not_lt.mpr h]

theorem pyClamp_of_neg (n : Nat) {i : Int} (h : i < 0) : pyClamp n i = n - i.natAbs := by
  simp only [pyClamp, h, if_true]
  omega

/-- `xs[:i]` -/
theorem slice_to {α} (xs : List α) (i : Int) :
    slice xs none (some i) = xs.take (pyClamp xs.length i) := by
  simp [slice]

/-- `xs[i:]` -/
theorem slice_from {α} (xs : List α) (i : Int) :
    slice xs (some i) none = xs.drop (pyClamp xs.length i) := by
  simp only [slice]
  exact List.take_of_length_le (by simp)

theorem slice_to_of_nonneg {α} {xs : List α} {i : Int} (h : 0 ≤ i) :
    slice xs none (some i) = xs.take i.toNat := by
  rw [slice_to, pyClamp_of_nonneg _ h, ← List.take_eq_take_min]

theorem slice_from_of_nonneg {α} {xs : List α} {i : Int} (h : 0 ≤ i) :
    slice xs (some i) none = xs.drop i.toNat := by
  rw [slice_from, pyClamp_of_nonneg _ h, ← List.drop_eq_drop_min]

theorem slice_from_of_neg {α} {xs : List α} {i : Int} (h : i < 0) :
    slice xs (some i) none = xs.drop (xs.length - i.natAbs) := by
  rw [slice_from, pyClamp_of_neg _ h]

theorem pyClamp_nat {len i : Nat} (h : i ≤ len) : pyClamp len (i : Int) = i := by
  have : ¬ ((i : Int) < 0) := by omega
  simp [pyClamp, this, Nat.min_eq_left h]

theorem slice_mid {α} {b : List α} {p q : Nat} (h1 : p ≤ q) (h2 : q ≤ b.length) :
    slice b (some (p : Int)) (some (q : Int)) = (b.drop p).take (q - p) := by
  simp only [slice, pyClamp_nat h2, pyClamp_nat (Nat.le_trans h1 h2)]

/-! ### Drop, Reverse -/

/-- **drop_correct**: `b[a:] if a >= 0 else b[:a]` is Drop, for every count (negative,
    zero, overshooting) and every list -/
theorem drop_correct {α} (a : Int) (b : List α) : implDrop a b = refDrop a b := by
  unfold implDrop refDrop
  split
  next h =>
    rw [slice_from_of_nonneg h]
    congr 1
    omega
  next h =>
    rw [slice_to, pyClamp_of_neg _ (by omega)]

/-- **reverse_correct**: `a[::-1]` is Reverse -/
theorem reverse_correct {α} [Inhabited α] (b : List α) : implReverse b = refReverse b := by
  unfold implReverse refReverse
  apply List.ext_getElem
  · simp
  · intro i h1 h2
    simp at h1
    have hi : b.length - 1 - i < b.length := by omega
    simp [List.getElem_reverse, List.getElem?_eq_getElem hi]

/-! ### windows of the endless repetition of `b`

Take, Rotate (and Reshape, in C01Ext2) produce a stretch of the endless repetition of their
operand: both sides are brought to `window b s len` (`len` elements from position `s`), and two
such are equal when the starts agree modulo `#b`. -/

def window {α} [Inhabited α] (b : List α) (s len : Nat) : List α :=
  (List.range len).map (fun i => cyc b (s + i))

section
variable {α : Type _} [Inhabited α]

@[simp] theorem window_length (b : List α) (s len : Nat) : (window b s len).length = len := by
  simp [window]

theorem cyc_add_mul (b : List α) (i k : Nat) : cyc b (i + k * b.length) = cyc b i := by
  unfold cyc
  rw [Nat.add_mul_mod_self_right]

/-- `j`, `k` explicit so that the side condition is linear arithmetic; the lengths related by an
    equation (`hl`) so that a caller can leave that to `omega` too -/
theorem window_congr (b : List α) {s t len len' : Nat} (j k : Nat)
    (h : s + j * b.length = t + k * b.length) (hl : len = len') :
    window b s len = window b t len' := by
  subst hl
  unfold window
  apply List.map_congr_left
  intro i _
  rw [← cyc_add_mul b (s + i) j, ← cyc_add_mul b (t + i) k]
  congr 1
  omega

theorem window_take (b : List α) (s len j : Nat) :
    (window b s len).take j = window b s (min j len) := by
  unfold window
  rw [← List.map_take, List.take_range]

theorem window_drop (b : List α) (s len j : Nat) :
    (window b s len).drop j = window b (s + j) (len - j) := by
  apply List.ext_getElem
  · simp
  · intro i h1 h2
    simp [window, Nat.add_assoc]

theorem window_append (b : List α) (s l1 l2 : Nat) :
    window b s l1 ++ window b (s + l1) l2 = window b s (l1 + l2) := by
  unfold window
  rw [List.range_add, List.map_append, List.map_map]
  simp [Function.comp_def, Nat.add_assoc]

theorem window_append_congr (b : List α) {s t l1 l2 : Nat} (j k : Nat)
    (h : s + l1 + j * b.length = t + k * b.length) :
    window b s l1 ++ window b t l2 = window b s (l1 + l2) := by
  rw [window_congr b k j h.symm rfl, window_append]

theorem self_eq_window (b : List α) : b = window b 0 b.length := by
  apply List.ext_getElem
  · simp
  · intro i h1 h2
    simp [window, cyc, Nat.mod_eq_of_lt h1, h1]

theorem take_eq_window (b : List α) (j : Nat) : b.take j = window b 0 (min j b.length) := by
  rw [← window_take, ← self_eq_window]

theorem drop_eq_window (b : List α) (j : Nat) : b.drop j = window b j (b.length - j) := by
  have h := window_drop b 0 b.length j
  rwa [← self_eq_window, Nat.zero_add] at h

theorem tile_eq_window (b : List α) (k : Nat) : tile b k = window b 0 (k * b.length) := by
  induction k with
  | zero => simp [tile, window]
  | succ k ih =>
    -- `b` is `window b 0 #b`, and the `k` copies after it may as well start at `#b`
    rw [tile, ih, Nat.succ_mul, Nat.add_comm, ← window_append, Nat.zero_add, ← self_eq_window,
      window_congr b 0 1 (s := b.length) (t := 0) (by omega) rfl]

/-- `m` elements that end where a copy of `b` ends: where the reference's negative Take starts -/
theorem window_end (b : List α) {x len : Nat} (m j : Nat) (hb : 0 < b.length)
    (hx : x + m = j * b.length) (hl : len = m) :
    window b x len = window b (b.length - m % b.length) m := by
  have hdm := Nat.div_add_mod m b.length
  have hr := Nat.mod_lt m hb
  have hq : (m / b.length + 1) * b.length = m / b.length * b.length + b.length := Nat.succ_mul ..
  rw [Nat.mul_comm] at hdm
  exact window_congr b (m / b.length + 1) j (by omega) hl

theorem tile_append_window (b : List α) (q r : Nat) :
    tile b q ++ window b 0 r = window b 0 (q * b.length + r) := by
  rw [tile_eq_window, window_append_congr b 0 q (by omega)]

end

/-! ### Rotate -/

theorem npRoll_eq_window {α} [Inhabited α] (b : List α) (a : Int) (hn : b.length ≠ 0) :
    npRoll b a = window b (b.length - (a % (b.length : Int)).toNat) b.length := by
  unfold npRoll window cyc
  apply List.map_congr_left
  intro i _
  congr 1
  have hk0 : 0 ≤ a % (b.length : Int) := Int.emod_nonneg _ (by omega)
  have hk1 : a % (b.length : Int) < (b.length : Int) := Int.emod_lt_of_pos _ (by omega)
  have : (((b.length - (a % (b.length : Int)).toNat + i : Nat) : Int)) % (b.length : Int)
      = ((i : Int) - a) % (b.length : Int) :=
    calc _ = ((i : Int) - a % (b.length : Int) + (b.length : Int)) % (b.length : Int) := by
          congr 1
          omega
      _ = ((i : Int) - a % (b.length : Int)) % (b.length : Int) := Int.add_emod_right ..
      _ = _ := by rw [Int.sub_emod (↑i) a, Int.sub_emod (↑i) (a % _), Int.emod_emod]
  rw [← this]
  omega

/-- **rotate_correct**: `np.roll(b, a)` (element i moves to (i+a) mod n) is Rotate: drop
    `a!#b` elements from the end and append them to the front -/
theorem rotate_correct {α} [Inhabited α] (a : Int) (b : List α) : implRotate a b = refRotate a b := by
  unfold implRotate refRotate
  by_cases hn : b.length = 0
  · obtain rfl := List.eq_nil_of_length_eq_zero hn
    simp [npRoll]
  · have hk1 : a % (b.length : Int) < (b.length : Int) := Int.emod_lt_of_pos _ (by omega)
    simp only [hn, if_false]
    -- the second window starts at 0, the first ends at `#b`: one copy of `b` apart
    rw [drop_eq_window, take_eq_window, window_append_congr b 0 1 (by omega)]
    split
    next h =>
      subst h
      exact (self_eq_window b).trans (window_congr b 1 0 (by simp) (by simp))
    next h =>
      rw [npRoll_eq_window b a hn]
      exact window_congr b 0 0 rfl (by omega)

/-! ### Take -/

section
variable {α : Type _} [Inhabited α]

theorem refTake_eq_window (a : Int) (b : List α) (hn : b.length ≠ 0) :
    refTake a b = if a ≥ 0 then window b 0 a.natAbs
      else window b (b.length - a.natAbs % b.length) a.natAbs := by
  simp [refTake, window, hn]

/-- whole copies, then the first `n mod #b` elements of anything (`ys`) that itself starts the
    repetition: the tiled `t` in Take, `b` itself in Reshape -/
theorem tile_div_append_take (b ys : List α) (n : Nat) (hb : 0 < b.length)
    (hys : ∀ r < b.length, ys.take r = window b 0 r) (k : Int)
    (hk : k = (n : Int) - ((n / b.length * b.length : Nat) : Int)) :
    tile b (n / b.length) ++ slice ys none (some k) = window b 0 n := by
  have hdm := Nat.div_add_mod n b.length
  have hr := Nat.mod_lt n hb
  rw [Nat.mul_comm] at hdm
  have e : k = ((n % b.length : Nat) : Int) := by omega
  rw [e, slice_to_of_nonneg (by omega), Int.toNat_natCast, hys _ hr, tile_append_window, hdm]

/-- the long positive Take: `t = tile b (m / #b)`, then `t ++ t[:m - len(t)]` -/
theorem tile_append_slice_tile (b : List α) (m : Nat) (hb : 0 < b.length) (hgt : m > b.length) :
    tile b (m / b.length) ++ slice (tile b (m / b.length)) none
      (some ((m : Int) - ((tile b (m / b.length)).length : Int))) = window b 0 m := by
  have hq : 0 < m / b.length := Nat.div_pos (Nat.le_of_lt hgt) hb
  apply tile_div_append_take b _ m hb
  · intro r hr
    have : b.length ≤ m / b.length * b.length := Nat.le_mul_of_pos_left _ hq
    rw [tile_eq_window, window_take, Nat.min_eq_left (by omega)]
  · rw [tile_eq_window, window_length]

/-- the long negative Take: `c = t[-(m - len(t)):] ++ t`, then `c[-m:]`.  With r = m mod #b,
    `t[-r:]` is all of `t` when r = 0; either way it starts at some S ≤ len(t) - r, and that
    bound is all the rest needs -/
theorem slice_tile_append_tile (b : List α) (m : Nat) (hb : 0 < b.length) (hgt : m > b.length) :
    slice (slice (tile b (m / b.length))
          (some (-((m : Int) - ((tile b (m / b.length)).length : Int)))) none
        ++ tile b (m / b.length)) (some (-(m : Int))) none
      = window b (b.length - m % b.length) m := by
  have hdm := Nat.div_add_mod m b.length
  have hr := Nat.mod_lt m hb
  have hT : b.length ≤ m / b.length * b.length :=
    Nat.le_mul_of_pos_left _ (Nat.div_pos (Nat.le_of_lt hgt) hb)
  have h2T : (m / b.length + m / b.length) * b.length
      = m / b.length * b.length + m / b.length * b.length := Nat.add_mul ..
  rw [Nat.mul_comm] at hdm
  rw [tile_eq_window]
  simp only [slice_from, window_length, window_drop, List.length_append]
  generalize hT' : m / b.length * b.length = T at *
  have hS : pyClamp T (-((m : Int) - (T : Int))) ≤ T - m % b.length := by
    unfold pyClamp
    split <;> omega
  generalize pyClamp T _ = S at *
  -- the first piece holds `d` elements more than the `m % #b` that are wanted of it
  obtain ⟨d, hd⟩ : ∃ d, T - S = d + m % b.length := ⟨T - S - m % b.length, by omega⟩
  have hL : T - S + T = d + m := by omega
  rw [window_append_congr b 0 (m / b.length) (by omega), window_drop, hL,
    pyClamp_of_neg _ (by omega), Int.natAbs_neg, Int.natAbs_natCast, Nat.add_sub_cancel,
    Nat.add_sub_cancel_left]
  exact window_end b m (m / b.length + m / b.length) hb (by omega) rfl

theorem implTake_eq_window (a : Int) (b : List α) (hn : b.length ≠ 0) :
    implTake a b = if a ≥ 0 then window b 0 a.natAbs
      else window b (b.length - a.natAbs % b.length) a.natAbs := by
  have hb : 0 < b.length := Nat.pos_of_ne_zero hn
  unfold implTake
  simp only [hn, if_false]
  by_cases ha : a ≥ 0
  · obtain ⟨m, rfl⟩ := Int.eq_ofNat_of_zero_le ha
    have h1 : ¬ (m : Int) < 0 := by omega
    simp only [ha, h1, if_true, if_false, Int.natAbs_natCast]
    split
    next hgt =>
      have h2 : (m : Int) > 0 := by omega
      rw [if_pos h2, tile_append_slice_tile b m hb hgt, slice_to_of_nonneg ha, window_take]
      congr 1
      omega
    next hgt =>
      rw [slice_to_of_nonneg ha, take_eq_window]
      congr 1
      omega
  · obtain ⟨m, rfl⟩ : ∃ m : Nat, a = -(m : Int) := ⟨a.natAbs, by omega⟩
    have h1 : -(m : Int) < 0 := by omega
    have h2 : ¬ -(m : Int) > 0 := by omega
    simp only [ha, h1, h2, if_true, if_false, Int.natAbs_neg, Int.natAbs_natCast]
    split
    next hgt => exact slice_tile_append_tile b m hb hgt
    next hgt =>
      rw [slice_from_of_neg h1, Int.natAbs_neg, Int.natAbs_natCast, drop_eq_window]
      exact window_end b m 1 hb (by omega) (by omega)

end

/-- **take_correct**: the tile / concatenate / slice arithmetic of `eval_dyad_take` is cyclic
    extraction of |a| elements from the front (back when negative) -/
theorem take_correct {α} [Inhabited α] (a : Int) (b : List α) : implTake a b = refTake a b := by
  by_cases hn : b.length = 0
  · simp only [implTake, refTake, hn, if_true]
    exact List.eq_nil_of_length_eq_zero hn
  · rw [implTake_eq_window a b hn, refTake_eq_window a b hn]

/-! ### Split -/

theorem ceilDiv_mul_bounds (N D : Nat) (hD : 0 < D) :
    N ≤ (N + D - 1) / D * D ∧ (N + D - 1) / D * D < N + D := by
  have h1 := Nat.div_add_mod (N + D - 1) D
  have h2 := Nat.mod_lt (N + D - 1) hD
  rw [Nat.mul_comm] at h1
  omega

/-- any `k` whose `k` copies of `a` are the first to cover `b` counts the segments
    (`ceilDiv_mul_bounds`: `⌈#b / a⌉` is one); one less covers what is left after the first -/
theorem refSplitN_eq_map {α} {a fuel : Nat} {b : List α} (k : Nat) (h : b.length < fuel)
    (hk : b.length ≤ k * a ∧ k * a < b.length + a) :
    refSplitN fuel a b = (List.range k).map (fun i => (b.drop (i * a)).take a) := by
  induction fuel generalizing b k with
  | zero => omega
  | succ fuel ih =>
    unfold refSplitN
    cases k with
    | zero =>
      obtain rfl := List.eq_nil_of_length_eq_zero (by omega : b.length = 0)
      rfl
    | succ k =>
      rw [Nat.succ_mul] at hk
      have hemp : b.isEmpty = false := by
        rw [List.isEmpty_eq_false_iff, ← List.length_pos_iff]
        omega
      rw [hemp, ih k (by simp; omega) (by simp; omega), List.range_succ_eq_map]
      simp only [List.map_cons, List.map_map, Nat.zero_mul, List.drop_zero, Bool.false_eq_true,
        if_false]
      congr 1
      apply List.map_congr_left
      intro i _
      simp only [Function.comp, List.drop_drop]
      congr 2
      rw [Nat.succ_mul]
      omega

/-- **split_correct**: segments of size `a`, the last may be shorter (repaired code) -/
theorem split_correct {α} (a : Nat) (b : List α) (ha : 0 < a) :
    implSplitN a b = refSplitN (b.length + 1) a b := by
  unfold implSplitN
  by_cases hn : b.length = 0
  · obtain rfl := List.eq_nil_of_length_eq_zero hn
    rfl
  · simp only [hn, if_false]
    split
    next hge =>
      rw [refSplitN_eq_map 1 (by omega) (by omega)]
      simp [List.take_of_length_le hge]
    next => rw [refSplitN_eq_map _ (by omega) (ceilDiv_mul_bounds _ _ ha)]

/-- the pinned `array_split` version is wrong: 3:#[1 2 3 4] -/
theorem split_pinned_wrong :
    implSplitN_pinned 3 [1, 2, 3, 4] ≠ refSplitN 5 3 [1, 2, 3, 4] := by
  decide

/-! ### Match on two characters, on two integers (Find, Range and Group compare with it) -/

theorem vmatch_chr (a b : Nat) : vmatch (.chr a) (.chr b) = (a == b) := rfl

theorem vmatch_int (a b : Int) : vmatch (.int a) (.int b) = (a == b) := rfl

end Klong.C01
