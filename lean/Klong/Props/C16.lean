/-
  C16 — the sequential FileCache, the key-value store on it and the table store's merge.  Every
  operation is a composition of three moves that keep the invariant (`inv_evict`, `inv_write`,
  `inv_push`).  `abs` reads the disk only, so the refinement to a finite map (`step_sim`) needs the
  invariant in one place, the cache hit.  The merge is specified by what `List.lookup` finds in it.
-/
import Klong.Model.C16
import Klong.Props.Assoc
namespace Klong.C16
open Klong.Wire

theorem sizes_nil : sizes [] = 0 := rfl
theorem sizes_cons (e : Entry) (es : List Entry) : sizes (e :: es) = e.size + sizes es := by
  simp [sizes]
theorem sizes_append (a b : List Entry) : sizes (a ++ b) = sizes a + sizes b := by
  simp [sizes, List.sum_append]

theorem sizes_split (es : List Entry) (ev : List Name) :
    sizes es = sizes (evict es ev) + sizes (gone es ev) := by
  induction es with
  | nil => rfl
  | cons e es ih =>
    rw [sizes_cons, ih]
    by_cases h : e.name ∈ ev <;> simp [evict, gone, h, sizes_cons]
    all_goals omega

theorem sizes_nonneg (es : List Entry) : 0 ≤ sizes es := by
  induction es with
  | nil => exact Int.le_refl 0
  | cons e es ih =>
    rw [sizes_cons]
    omega

theorem names_evict_sub (es : List Entry) (ev : List Name) :
    (names (evict es ev)).Sublist (names es) :=
  List.Sublist.map _ List.filter_sublist

theorem mem_evict {es : List Entry} {ev : List Name} {e : Entry} :
    e ∈ evict es ev ↔ e ∈ es ∧ ev.contains e.name = false := by
  simp [evict]

theorem not_mem_names_without (es : List Entry) (n : Name) : n ∉ names (without es n) := by
  simp [names, without, evict]

theorem not_mem_names_evict {es : List Entry} {n : Name} (ev : List Name) (h : n ∉ names es) :
    n ∉ names (evict es ev) :=
  fun hh => h ((names_evict_sub es ev).subset hh)

theorem gone_of_not_mem {es : List Entry} {n : Name} (h : n ∉ names es) : gone es [n] = [] :=
  List.filter_eq_nil_iff.mpr fun x hx hp => h (List.mem_map.mpr ⟨x, hx, by simpa using hp⟩)

theorem sizes_gone_single {es : List Entry} {e : Entry} (hn : (names es).Nodup) (he : e ∈ es) :
    sizes (gone es [e.name]) = e.size := by
  induction es with
  | nil => cases he
  | cons a as ih =>
    rw [names, List.map_cons, List.nodup_cons] at hn
    rw [gone, List.filter_cons, ← gone]
    rcases List.mem_cons.mp he with rfl | he'
    · simp [gone_of_not_mem hn.1, sizes]
    · have : a.name ≠ e.name := fun hh => hn.1 (hh ▸ List.mem_map_of_mem he')
      simpa [this] using ih hn.2 he'

theorem disk_get_set (d : Disk) (n k : Name) (b : Bytes) :
    (d.set n b).get k = if k = n then some b else d.get k :=
  lookup_cons_filter_ne

theorem inv_init (max : Nat) (disk : Disk) : Inv (init max disk) :=
  ⟨rfl, Int.natCast_nonneg max, List.nodup_nil, fun _ h => nomatch h⟩

theorem legalEv_iff {es ev mem max claim} :
    legalEv es ev mem max claim = true ↔
      (∀ n ∈ ev, n ∈ names es) ∧ mem - sizes (gone es ev) + (claim : Int) ≤ max := by
  simp [legalEv]

/-- what `recover_memory` and `_unload_file` do to the cache -/
theorem inv_evict {s : Cache} (h : Inv s) (ev : List Name) :
    Inv { s with mem := s.mem - sizes (gone s.entries ev), entries := evict s.entries ev } where
  acct := by rw [h.acct, sizes_split s.entries ev, Int.add_sub_cancel]
  bound := Int.le_trans (Int.sub_le_self _ (sizes_nonneg _)) h.bound
  nodup := (names_evict_sub _ _).nodup h.nodup
  fresh e he := h.fresh e (mem_evict.mp he).1

theorem inv_push {s : Cache} (h : Inv s) (e : Entry) (hn : e.name ∉ names s.entries)
    (hf : s.disk.get e.name = some e.data ∧ e.size = e.data.length) (hb : s.mem + e.size ≤ s.max) :
    Inv { s with mem := s.mem + e.size, entries := s.entries ++ [e] } where
  acct := by simp only [sizes_append, sizes_cons, sizes_nil, h.acct, Int.add_zero]
  bound := hb
  nodup := by
    rw [names, List.map_append]
    exact (List.perm_append_singleton _ _).nodup_iff.mpr (List.nodup_cons.mpr ⟨hn, h.nodup⟩)
  fresh x hx := by
    rcases List.mem_append.mp hx with hx | hx
    · exact h.fresh x hx
    · exact List.mem_singleton.mp hx ▸ hf

theorem inv_write {s : Cache} (h : Inv s) (n : Name) (d : Bytes) (hn : n ∉ names s.entries) :
    Inv { s with disk := s.disk.set n d } where
  acct := h.acct
  bound := h.bound
  nodup := h.nodup
  fresh e he := by
    have hne : e.name ≠ n := fun hh => hn (hh ▸ List.mem_map_of_mem he)
    simpa only [disk_get_set, if_neg hne] using h.fresh e he

/-- `update_file`: unload the old entry, evict, write, enter the new entry.
    `get_file`: a hit moves the entry to the young end; a miss evicts and enters the file read. -/
theorem step_sim (s : Cache) (op : Op) (h : Inv s) :
    Inv (step s op).1 ∧
    ((step s op).2 ≠ .illegal →
      (abs (step s op).1, (step s op).2) = specStep s.max (abs s) op) := by
  cases op with
  | update n d ev =>
    simp only [step, update, specStep]
    -- the splits follow `update`: the data exceeds the limit; the eviction choice is legal; or not
    split
    · exact ⟨h, fun _ => rfl⟩
    · split
      · next hleg =>
        have hn := not_mem_names_evict ev (not_mem_names_without s.entries n)
        refine ⟨?_, fun _ => congrArg (·, Out.applied) (funext fun k => disk_get_set s.disk n k d)⟩
        exact inv_push (inv_write (inv_evict (inv_evict h [n]) ev) n d hn) ⟨n, d.length, d⟩ hn
          ⟨(disk_get_set _ n n d).trans (if_pos rfl), rfl⟩ (legalEv_iff.mp hleg).2
      · exact ⟨h, fun hl => absurd rfl hl⟩
  | get n ev =>
    simp only [step, specStep, abs]
    unfold get
    -- the splits follow `get`: no file; the file exceeds the limit; a hit (without an eviction
    -- choice; with one, illegal); a miss (under a legal choice; an illegal one)
    split
    · exact ⟨h, fun _ => rfl⟩
    · next b hb =>
      split
      · exact ⟨h, fun _ => rfl⟩
      · split
        · next e hfind =>
          split
          · have hmem := List.mem_of_find?_eq_some hfind
            obtain rfl : e.name = n := by simpa using List.find?_some hfind
            -- the entry leaves and re-enters, so the byte total is what it was
            have := inv_push (inv_evict h [e.name]) e (not_mem_names_without _ _) (h.fresh e hmem)
            simp only [sizes_gone_single h.nodup hmem, Int.sub_add_cancel] at this
            -- a hit returns the cached contents, which `fresh` says are the file's
            rw [Option.some.inj (hb.symm.trans (h.fresh e hmem).1)]
            exact ⟨this h.bound, fun _ => rfl⟩
          · exact ⟨h, fun hl => absurd rfl hl⟩
        · next hfind =>
          split
          · next hleg =>
            have hn := not_mem_names_evict ev (by simpa [names] using hfind)
            exact ⟨inv_push (inv_evict h ev) ⟨n, b.length, b⟩ hn ⟨hb, rfl⟩ (legalEv_iff.mp hleg).2,
              fun _ => rfl⟩
          · exact ⟨h, fun hl => absurd rfl hl⟩
  | unload n => exact ⟨inv_evict h [n], fun _ => rfl⟩
  | reopen => exact ⟨inv_init _ _, fun _ => rfl⟩
  | reopenWith m => exact ⟨inv_init _ _, fun _ => rfl⟩

theorem inv_step (s : Cache) (op : Op) (h : Inv s) : Inv (step s op).1 :=
  (step_sim s op h).1

theorem inv_run (s : Cache) (ops : List Op) (h : Inv s) : Inv (run s ops).1 := by
  induction ops generalizing s with
  | nil => exact h
  | cons op ops ih => exact ih _ (inv_step s op h)

theorem step_max (s : Cache) (op : Op) : (step s op).1.max = nextMax s.max op := by
  cases op with
  | update n d ev =>
    show (update s n d ev).1.max = s.max
    fun_cases update s n d ev <;> rfl
  | get n ev =>
    show (get s n ev).1.max = s.max
    fun_cases get s n ev <;> rfl
  | unload n | reopen | reopenWith m => rfl

/-- **accounting_inv**: after any operation sequence from a freshly opened cache over any
    directory contents, under any limit and for *every* eviction choice at every step:
    the byte total equals the sum of the cached entries, lies in `[0, max]`, entry names are
    unique and every cached entry equals the file on disk. -/
theorem accounting_inv (max : Nat) (disk : Disk) (ops : List Op) :
    Inv (run (init max disk) ops).1 :=
  inv_run _ ops (inv_init max disk)

/-- the accounting clauses of the property, spelled out -/
theorem accounting_bounds (max : Nat) (disk : Disk) (ops : List Op) :
    let s := (run (init max disk) ops).1
    s.mem = sizes s.entries ∧ 0 ≤ s.mem ∧ s.mem ≤ s.max := by
  have h := accounting_inv max disk ops
  exact ⟨h.acct, h.acct ▸ sizes_nonneg _, h.bound⟩

/-- **kvs_refines_map**: for every operation sequence in which every eviction choice is
    legal, the outputs are those of the abstract finite map and the final disk is the
    abstract map's final state.  The abstract map knows no eviction, and its `unload` and `reopen`
    steps are the identity: so evictions, unloads and reopening never change what a get returns
    (DESIGN's `eviction_keeps_map`, no theorem of its own). -/
theorem kvs_refines_map (ops : List Op) (s : Cache) (h : Inv s)
    (hl : Out.illegal ∉ (run s ops).2) :
    (run s ops).2 = (specRun s.max (abs s) ops).2 ∧
    abs (run s ops).1 = (specRun s.max (abs s) ops).1 := by
  induction ops generalizing s with
  | nil => exact ⟨rfl, rfl⟩
  | cons op ops ih =>
    simp only [run, specRun, List.mem_cons, not_or] at hl ⊢
    obtain ⟨hi, hr⟩ := step_sim s op h
    obtain ⟨i1, i2⟩ := ih (step s op).1 hi hl.2
    rw [← hr (Ne.symm hl.1), ← step_max]
    exact ⟨congrArg ((step s op).2 :: ·) i1, i2⟩

/-- the abstract map is the obvious one: a get returns the latest set (`kvs_refines_map`
    transports it to the cache) -/
theorem spec_get_after_set (max : Nat) (m : Spec) (n : Name) (d : Bytes) (ev ev' : List Name)
    (hd : d.length ≤ max) :
    (specStep max (specStep max m (.update n d ev)).1 (.get n ev')).2 = .data d := by
  simp [specStep, Nat.not_lt.mpr hd]

theorem spec_set_other_key (max : Nat) (m : Spec) (n k : Name) (d : Bytes) (ev : List Name)
    (hk : k ≠ n) : (specStep max m (.update n d ev)).1 k = m k := by
  by_cases h : d.length > max <;> simp [specStep, h, hk]

theorem spec_oversize_rejected (max : Nat) (m : Spec) (n : Name) (d : Bytes) (ev : List Name)
    (hd : max < d.length) : specStep max m (.update n d ev) = (m, .memErr) := by
  simp [specStep, hd]

theorem spec_missing_key (max : Nat) (m : Spec) (n : Name) (ev : List Name) (h : m n = none) :
    specStep max m (.get n ev) = (m, .notFound) := by
  simp [specStep, h]

/-- a get directly after a set of the same key returns that value, whatever was cached, evicted
    or reopened before -/
theorem get_after_set (s : Cache) (h : Inv s) (n : Name) (d : Bytes) (ev ev' : List Name)
    (hd : d.length ≤ s.max)
    (hl : Out.illegal ∉ (run s [.update n d ev, .get n ev']).2) :
    (run s [.update n d ev, .get n ev']).2 = [.applied, .data d] := by
  rw [(kvs_refines_map _ s h hl).1]
  simp [specRun, specStep, nextMax, Nat.not_lt.mpr hd]

/-- evicting everything is legal when the claim fits the limit: the loop of `recover_memory`
    can always succeed -/
theorem evict_all_legal (es : List Entry) (mem : Int) (max claim : Nat)
    (hm : mem = sizes es) (hc : claim ≤ max) : legalEv es (names es) mem max claim = true := by
  have hg : gone es (names es) = es :=
    List.filter_eq_self.mpr fun _ he => List.contains_iff_mem.mpr (List.mem_map_of_mem he)
  refine legalEv_iff.mpr ⟨fun _ hn => hn, ?_⟩
  rw [hg, hm]
  omega

/-- non-vacuity: a concrete run with a forced eviction meets the hypotheses -/
example :
    let ops := [Op.update "a" [1,2,3] [], .update "b" [4,5,6] ["a"], .get "a" ["b"], .reopen,
                .get "b" []]
    (run (init 4 []) ops).2 = [.applied, .applied, .data [1,2,3], .done, .data [4,5,6]] := by
  decide

/-- another store object on the same directory with a SMALLER limit: a get of a value that does
    not fit is refused and leaves the accounting untouched; a later set that fits is accounted
    once -/
example :
    let ops := [Op.update "a" [1,2,3,4,5] [], .reopenWith 2, .get "a" [], .get "a" [], .update "a" [7] [],
                .get "a" [], .unload "a"]
    (run (init 8 []) ops).2 = [.applied, .done, .memErr, .memErr, .applied, .data [7], .done] ∧
    (run (init 8 []) (ops.take 4)).1.mem = 0 ∧ (run (init 8 []) (ops.take 6)).1.mem = 1 ∧
    (run (init 8 []) ops).1.mem = 0 := by
  decide

/-! ## the table store's merge -/

theorem lookup_insertSortedFront (p : Int × Row) (f : Frame) (k : Int) :
    List.lookup k (sortFrame.insertSortedFront p f) =
      if k = p.1 then some p.2 else List.lookup k f := by
  fun_induction sortFrame.insertSortedFront p f with
  -- `[]`, or `p.1 ≤ q.1` at the head `q`: `p` goes in front
  | case1 | case2 => exact lookup_cons_ite
  | case3 q qs h ih =>
    rw [lookup_cons_ite, lookup_cons_ite, ih]
    -- `p` went past `q`: the keys differ, so the two tests commute
    have hpq : p.1 ≠ q.1 := by omega
    by_cases hk : k = p.1 <;> simp [hk, hpq]

theorem lookup_sortFrame (f : Frame) (k : Int) : List.lookup k (sortFrame f) = List.lookup k f := by
  induction f with
  | nil => rfl
  | cons p ps ih => simp only [sortFrame, lookup_insertSortedFront, ih, lookup_cons_ite]

theorem lookup_dedupAux (f : Frame) (last k : Int) (hk : k ≠ last) :
    List.lookup k (dedupAux last f) = List.lookup k f := by
  fun_induction dedupAux last f with
  | case1 => rfl
  -- `q.1 = last` (`last` is replaced by `q.1`): the row is dropped, and is not `k`'s
  | case2 q rest ih => rw [ih hk, lookup_cons_ite, if_neg hk]
  -- `q` is kept and is the next `last`: a `k` other than `q.1` is looked up in the rest
  | case3 last q rest hq ih =>
    simp only [lookup_cons_ite]
    exact ite_congr rfl (fun _ => rfl) ih

theorem lookup_dedupFirst (f : Frame) (k : Int) : List.lookup k (dedupFirst f) = List.lookup k f := by
  cases f with
  | nil => rfl
  | cons p rest =>
    simp only [dedupFirst, lookup_cons_ite]
    exact ite_congr rfl (fun _ => rfl) (lookup_dedupAux rest p.1 k)

/-- **table_merge_spec**: after `ts,key,new` the stored table holds, for every index value,
    the existing row if there was one and otherwise the (first) new one -/
theorem table_merge_spec (old new : Frame) (k : Int) :
    List.lookup k (merge old new) = mergeLookup old new k := by
  simp only [merge, lookup_dedupFirst, lookup_sortFrame, List.lookup_append, mergeLookup]

example : merge [(2, [20]), (1, [10])] [(2, [99]), (0, [5])] = [(0, [5]), (1, [10]), (2, [20])] := by
  decide

end Klong.C16
