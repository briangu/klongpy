/-
  C12 — the `step_*` lemmas of the nine parser functions not done in C12Parser, and the induction over
  fuel (`spec_all`).  At `fuel + 1` a function computes to its body, so the rules are applied to the goal
  as it stands; `rw [f]` only where a later step has to see the body.
-/
import Klong.Props.C12Parser
namespace Klong.C12

theorem isNone_str (s : List Char) : (Node.str s).isNone = false := rfl
theorem isNone_chr (c : Char) : (Node.chr c).isNone = false := rfl
theorem isNone_sym (s : List Char) : (Node.sym s).isNone = false := rfl
theorem isNone_op (s : List Char) : (Node.op s).isNone = false := rfl
theorem isNone_fn (a : Node) (b : Bool) (c : List Node) (d : Nat) (e : Bool) : (Node.fn a b c d e).isNone = false := rfl
theorem isNone_mfn (a x : Node) : (Node.mfn a x).isNone = false := rfl
theorem isNone_cond (xs : List Node) : (Node.cond xs).isNone = false := rfl
theorem isNone_exprArr (xs : List Node) : (Node.exprArr xs).isNone = false := rfl
theorem isNone_none : Node.none.isNone = true := rfl

theorem step_readFn {cfg : Cfg} {t : Text} {fuel : Nat} (ih : Spec cfg t fuel) :
    ∀ i m, i ≤ t.length + 1 → need t.length i 6 ≤ fuel + 1 →
    SatW (t.length + 2) (PA t.length i) (EB t.length i 50) (readFn cfg t (fuel + 1) i m) := by
  intro i m hi hf
  refine rest_start hi fun hc => rest_bind (hc.call hf (ih.prog i true m)) hc fun i2 body m2 q1 hv => ?_
  have hst := skip_units cfg true hv.2.1
  replace hc := (hc.trans hv.run).to (skip_le cfg true hv.2.1)
  refine rest_expect hc fun hc => ?_
  -- `fnArity` answers `.error` (never: the model's `fnArity` is total) or `.ok`
  split
  · exact rest_err 1 hst hc
  · -- with an argument list after the `}`, or without
    refine rest_ite (fun _ => ?_) fun _ => rest_ok 1 hst ((hc.tick 1).pa rfl)
    refine rest_bind (hc.call hf (ih.readFnArgs _ m2)) hc fun i5 fa m3 q2 hk => ?_
    exact rest_ok 1 hst (((hc.trans hk.run).tick 1).pa rfl)

theorem step_applyAdverbs {cfg : Cfg} {t : Text} {fuel : Nat} (ih : Spec cfg t fuel) :
    ∀ i a aa ar dy dv m, i ≤ t.length + 1 → need t.length i 4 ≤ fuel + 1 →
    SatW (t.length + 2) (PN 0 11 t.length i) (EB t.length i 30) (applyAdverbs cfg t (fuel + 1) i a aa ar dy dv m) := by
  intro i a aa ar dy dv m hi hf
  rw [applyAdverbs]
  have hb := adverbs_bounds t i
  cases hr : adverbsGo (t.drop i) i [] with
  | mk i1 more =>
    rw [hr] at hb
    dsimp only at hb ⊢
    have hi1 : i ≤ i1 ∧ i1 ≤ t.length + 1 := by omega
    refine rest_start hi fun hc => ?_
    replace hc := hc.to hi1
    refine rest_bind (hc.call hf (ih.expr i1 false m)) hc ?_
    -- both components of `Bd` are needed: the adverbs may or may not have advanced
    rintro i2 x m1 q1 ⟨h1, h2, -, -, hb1⟩
    exact rest_ok 1 (by omega) ⟨Nat.le_trans hi1.1 h1, h2, rfl, hb1.shift hi1.1 h1⟩

theorem step_readFnArgs {cfg : Cfg} {t : Text} {fuel : Nat} (ih : Spec cfg t fuel) :
    ∀ i m, i ≤ t.length + 1 → need t.length i 5 ≤ fuel + 1 →
    SatW (t.length + 2) (PLA t.length i) (EB t.length i 40) (readFnArgs cfg t (fuel + 1) i m) := by
  intro i m hi hf
  -- no `(` or `:(` here: an error; else `i1` is the index after it
  refine rest_start hi fun hc => rest_ite (fun _ => rest_err 1 one_unit hc) fun ha => ?_
  have hi1 : i < (if cmatch t i '(' = true then i + 1 else i + 2) ∧
      (if cmatch t i '(' = true then i + 1 else i + 2) ≤ t.length := by
    split
    · exact ⟨by omega, cmatch_lt ‹_›⟩
    · simp only [Bool.not_eq_true', Bool.not_eq_false, argsAhead, Bool.or_eq_true] at ha
      have := cmatch2_lt (ha.resolve_left ‹_›)
      omega
  generalize (if cmatch t i '(' = true then i + 1 else i + 2) = i1 at hi1 ⊢
  replace hc := hc.adv hi1.1 (Nat.le_succ_of_le hi1.2)
  -- `)` at once: no arguments; else the loop
  refine rest_ite (fun _ => rest_ok 1 one_unit ?_) fun _ => ?_
  · exact ((hc.to ⟨Nat.le_succ i1, Nat.succ_le_succ hi1.2⟩).tick 1).pla
  · exact rest_tail 1 one_unit (hc.call hf (ih.fnArgsLoop i1 i1 [] m)) hc
      fun _ _ _ h => ((hc.tick 1).trans h.run).pla

theorem step_fnArgsLoop {cfg : Cfg} {t : Text} {fuel : Nat} (ih : Spec cfg t fuel) :
    ∀ i k acc m, i ≤ t.length + 1 → need t.length i 4 ≤ fuel + 1 →
    SatW (t.length + 2) (PLA t.length i) (EB t.length i 30) (fnArgsLoop cfg t (fuel + 1) i k acc m) := by
  intro i k acc m hi hf
  refine rest_start hi fun hc => rest_bind (hc.call hf (kgRead_units cfg t fuel i false true m)) hc ?_
  rintro ii c m1 q1 hk
  replace hc := hc.trans hk.look
  obtain ⟨-, k2, -, ks, -⟩ := hk
  -- by the look-ahead: `;` (the next round), `)` (the end), anything else (an argument is read)
  refine rest_ite (fun hsemi => ?_) fun _ => rest_ite (fun _ => ?_) fun _ => ?_
  · have hii := ks (isStr_isNone hsemi)
    rw [if_pos hii]
    replace hc := hc.adv hii k2
    exact rest_tail 1 one_unit (hc.call hf (ih.fnArgsLoop ii ii _ m1)) hc
      fun _ _ _ h => ((hc.tick 1).trans h.run).pla
  · exact rest_expect hc fun hc => rest_ok 1 one_unit (hc.tick 1).pla
  · refine rest_bind (hc.call hf (ih.expr i true m1)) hc fun i2 a m2 q2 hv => ?_
    refine rest_ite (fun _ => ?_) fun hn => ?_
    · -- the argument is `None`: whatever was read, the `)` pays
      exact rest_expect (hc.trans hv.run) fun hc => rest_ok 1 one_unit (hc.tick 1).pla
    · have hlt := hv.2.2.2.1 (Bool.eq_false_iff.2 hn)
      rw [if_pos hlt]
      replace hc := hc.trans (hv.run_lt hlt)
      exact rest_tail 1 one_unit (hc.call hf (ih.fnArgsLoop i2 k (a :: acc) m2)) hc
        fun _ _ _ h => ((hc.tick 1).trans h.run).pla

theorem step_readCond {cfg : Cfg} {t : Text} {fuel : Nat} (ih : Spec cfg t fuel) :
    ∀ i m, i ≤ t.length + 1 → need t.length i 4 ≤ fuel + 1 →
    SatW (t.length + 2) (PA t.length i) (EB t.length i 30) (readCond cfg t (fuel + 1) i m) := by
  intro i m hi hf
  refine rest_start hi fun hc => rest_bind (hc.call hf (ih.expr i true m)) hc fun i1 n1 m1 q1 hv => ?_
  refine rest_expect (hc.trans hv.run) fun hc => ?_
  refine rest_bind (hc.call hf (ih.expr _ true m1)) hc fun i3 n2 m2 q2 hv => ?_
  have hst := skip_units cfg true hv.2.1
  replace hc := (hc.trans hv.run).to (skip_le cfg true hv.2.1)
  -- `:|` and the rest of the chain, or `;`, the third expression and `]`
  refine rest_ite (fun hm => ?_) fun _ => rest_expect hc fun hc => ?_
  · have hl := cmatch2_lt hm
    replace hc := hc.adv (Nat.lt_add_of_pos_right Nat.zero_lt_two) (Nat.succ_le_succ (Nat.le_of_lt hl))
    refine rest_bind (hc.call hf (ih.readCond _ m2)) hc fun i5 n3 m3 q3 hk => ?_
    exact rest_ok 1 hst (((hc.trans hk.run).tick 1).pa rfl)
  · refine rest_bind (hc.call hf (ih.expr _ true m2)) hc fun i6 n3 m3 q3 hv => ?_
    have hst2 := skip_units cfg true hv.2.1
    replace hc := (hc.trans hv.run).to (skip_le cfg true hv.2.1)
    exact rest_expect hc fun hc => rest_ok 2 (by omega) ((hc.tick 2).pa rfl)

theorem step_readExprArray {cfg : Cfg} {t : Text} {fuel : Nat} (ih : Spec cfg t fuel) :
    ∀ i m, i ≤ t.length + 1 → need t.length i 5 ≤ fuel + 1 →
    SatW (t.length + 2) (PL 0 2 t.length i) (EB t.length i 40) (readExprArray cfg t (fuel + 1) i m) := by
  intro i0 m hi hf
  have hs := skip_le cfg true hi
  refine rest_start hi fun hc => ?_
  replace hc := hc.to hs
  refine rest_tail 1 (skip_units cfg true hi) (hc.call hf (ih.exprArrayLoop _ [] m)) hc ?_
  -- both components of `Bd` are needed: `skip` may or may not have advanced
  rintro j v q ⟨h1, h2, hb⟩
  exact ⟨Nat.le_trans hs.1 h1, h2, hb.shift hs.1 h1⟩

theorem step_exprArrayLoop {cfg : Cfg} {t : Text} {fuel : Nat} (ih : Spec cfg t fuel) :
    ∀ i acc m, i ≤ t.length + 1 → need t.length i 4 ≤ fuel + 1 →
    SatW (t.length + 2) (PL 1 1 t.length i) (EB t.length i 30) (exprArrayLoop cfg t (fuel + 1) i acc m) := by
  intro i acc m hi hf
  -- inside the text and not at `]` (`hg`) an expression is read, else the loop ends
  refine rest_start hi fun hc => rest_ite (fun hg => ?_) fun _ => rest_ok 1 one_unit ?_
  · simp only [Bool.and_eq_true, decide_eq_true_eq] at hg
    refine rest_bind (hc.call hf (ih.expr i true m)) hc fun i1 e m1 q1 hv => ?_
    have hu := skip_units cfg true hv.2.1
    have hs := skip_le cfg true hv.2.1
    replace hc := (hc.trans (hv.run_lt (hv.lt hg.1))).to hs
    -- after the expression: `;` (the next round), `]` (the end), anything else (the next round)
    refine rest_ite (fun hsc => ?_) fun _ => rest_ite (fun hsc => ?_) fun _ => ?_
    · have hs3 := skip_le cfg true (Nat.add_le_add_right (Nat.le_of_lt (cmatch_lt hsc)) 1)
      replace hc := hc.to ⟨Nat.le_trans (Nat.le_succ _) hs3.1, hs3.2⟩
      rw [if_pos hc.lt]
      exact rest_tail 1 (by omega) (hc.call hf (ih.exprArrayLoop _ _ m1)) hc
        fun _ _ _ h => ((hc.tick 1).trans h.run).pl
    · replace hc := hc.to ⟨Nat.le_succ _, Nat.succ_le_succ (Nat.le_of_lt (cmatch_lt hsc))⟩
      exact rest_ok 1 hu (hc.tick 1).pl
    · rw [if_pos hc.lt]
      exact rest_tail 1 hu (hc.call hf (ih.exprArrayLoop _ _ m1)) hc
        fun _ _ _ h => ((hc.tick 1).trans h.run).pl
  · -- at `]`, which is stepped over, or at the end of the text
    split
    · exact ⟨Nat.le_succ i, Nat.succ_le_succ (Nat.le_of_lt (cmatch_lt ‹_›)), .flat (Nat.le_refl 1)⟩
    · exact ⟨Nat.le_refl i, hi, .flat (Nat.le_refl 1)⟩

theorem step_exprLoop {cfg : Cfg} {t : Text} {fuel : Nat} (ih : Spec cfg t fuel) :
    ∀ i a ii aa ign m, i ≤ ii → ii ≤ t.length + 1 → a.isNone = false → (aa.isNone = false → i < ii) →
    need t.length i 4 ≤ fuel + 1 →
    SatW (t.length + 2) (PN 0 1 t.length i) (EB t.length i 20) (exprLoop cfg t (fuel + 1) i a ii aa ign m) := by
  intro i a ii aa ign m h1 h2 ha haa hf
  have hi := Nat.le_trans h1 h2
  -- the look-ahead is a verb (`hg`): another round; else the expression ends, after the blanks if
  -- it is the string `\n` and newlines are ignored
  refine rest_start hi fun hc => rest_ite (fun hg => ?_) fun _ => rest_ite (fun _ => ?_) fun _ =>
    rest_ok 1 one_unit ⟨hc.le, hi, ha, .flat (Nat.le_refl 1)⟩
  · have haan : aa.isNone = false := by
      rcases Bool.or_eq_true_iff.1 hg with h | h
      · exact isOpOrSym_isNone h
      · exact isStr_isNone h
    replace hc := hc.adv (haa haan) h2
    refine rest_bind (P1 := fun i5 v q => v.isNone = false ∧ At t.length ii i5 q 1) (Ze' := 50) ?_ hc ?_
    · -- the verb, a run from `ii` with an account of its own (`hv`); `hc`, from `i`, gives the callees their
      -- fuel.  Balance 1 and error constant 50 are the largest of the three branches (a function: 0 and
      -- 50, `readFn`'s; a call: a tick and `readFnArgs`'s 40; a tick alone)
      refine rest_start h2 fun hv => rest_ite (fun _ => ?_) fun _ => rest_ite (fun _ => ?_) fun _ =>
        rest_ok 1 one_unit ⟨haan, (hv.tick 1).weaken⟩
      · exact rest_call (hc.call hf (ih.readFn ii m)) hv fun _ _ _ h => ⟨h.2.2.1, (hv.trans h.run).weaken⟩
      · refine rest_bind (hc.call hf (ih.readFnArgs ii m)) hv fun i5 fa m3 q1 hk => ?_
        exact rest_ok 1 one_unit ⟨rfl, ((hv.trans hk.run).tick 1).weaken⟩
    · rintro i5 v m3 q1 ⟨-, hr⟩
      replace hc := hc.trans hr
      refine rest_bind (P1 := fun i8 a' q => a'.isNone = false ∧ At t.length i5 i8 q 11) (Ze' := 30) ?_ hc ?_
      · -- the right operand, likewise a run from `i5` (`hs`); without an adverb it may read nothing:
        -- 11 is `expr`'s `Z` and a tick, 30 has room for `expr`'s `Ze`
        refine rest_start hc.inside fun hs => rest_onAdverb (fun i6 adv h6 => ?_) ?_
        · replace hs := hs.adv h6.1 h6.2
          exact rest_call ((hc.adv h6.1 h6.2).call hf (ih.applyAdverbs i6 v adv 2 true a m3)) hs
            fun _ _ _ h => ⟨h.2.2.1, (hs.trans h.run).weaken⟩
        · refine rest_bind (hc.call hf (ih.expr i5 ign m3)) hs fun i7 aaa m4 q2 hk => ?_
          exact rest_ok 1 one_unit ⟨rfl, ((hs.trans hk.run).tick 1).weaken⟩
      · rintro i8 a' m5 q2 ⟨ha', hr⟩
        replace hc := hc.trans hr
        refine rest_bind (hc.call hf (kgRead_units cfg t fuel i8 false ign m5)) hc ?_
        rintro ii' aa' m6 q3 hk
        replace hc := hc.trans hk.look
        obtain ⟨k1, k2, -, ks, -⟩ := hk
        rw [if_pos hc.lt]
        refine rest_tail 1 one_unit (hc.call hf fun _ => ih.exprLoop i8 a' ii' aa' ign m6 k1 k2 ha' ks) hc ?_
        intro j v' q h
        exact ((hc.tick 1).trans h.run).pn h.2.2.1
  · have hs := skip_le cfg true hi
    exact rest_ok 1 (skip_units cfg true hi) ⟨hs.1, hs.2, ha, .flat (Nat.le_refl 1)⟩

theorem step_factor {cfg : Cfg} (hg : cfg.guardEmptyMarker = true) {t : Text} {fuel : Nat} (ih : Spec cfg t fuel) :
    ∀ i ign m, i ≤ t.length + 1 → need t.length i 2 ≤ fuel + 1 →
    SatW (t.length + 2) (PV 24 9 t.length i) (EB t.length i 20) (factor cfg t (fuel + 1) i ign m) := by
  intro i ign m hi hf
  refine rest_start hi fun hc => rest_ite (fun hm => ?_) fun _ => ?_
  · replace hc := (hc.to (skip_le cfg ign hi)).adv (Nat.lt_add_of_pos_right Nat.zero_lt_two)
      (Nat.succ_le_succ (Nat.le_of_lt (cmatch2_lt hm)))
    refine rest_bind (hc.call hf (ih.readExprArray _ m)) hc fun i1 es m1 q1 hv => ?_
    exact rest_ok 1 (skip_units cfg ign hi) (((hc.trans hv.run).tick 1).pv_some rfl)
  · refine rest_bind (hc.call hf (kgReadArray_units cfg t fuel i ign m)) hc ?_
    rintro i1 a m1 q1 hk
    replace hc := hc.trans hk.look
    obtain ⟨h1, h2, hn1, hn2, kq⟩ := hk
    refine rest_ite (fun hn => rest_ok 1 one_unit ?_) fun hn => ?_
    · exact ⟨h1, h2, fun _ => hn1 hn, hn2, .flat (Nat.succ_le_succ kq)⟩
    · have hv : a.isNone = false := Bool.eq_false_iff.2 hn
      -- 8 owed for the look-ahead, 100 saved by the token: the balance every use of `hadv` starts from
      replace hc := (hc.adv (hn2 hv) h2).weaken (d0 := -92)
      -- an adverb after the factor `v`, which ended at `i2`
      have hadv : ∀ i2 v m2 c, At t.length i i2 c (-92) → v.isNone = false →
          Rest t.length i 20 (PV 24 9 t.length i) c
            (onAdverb t i2 (fun i3 adv => applyAdverbs cfg t fuel i3 v adv 1 false Node.none m2)
              (fun _ => Res.ok i2 v m2 1)) := by
        intro i2 v m2 c hc hv
        refine rest_onAdverb (fun i3 adv h3 => ?_) (rest_ok 1 one_unit ((hc.tick 1).pv_some hv))
        replace hc := hc.adv h3.1 h3.2
        exact rest_call (hc.call hf (ih.applyAdverbs i3 v adv 1 false .none m2)) hc
          fun _ _ _ h => (hc.trans h.run).pv_some h.2.2.1
      refine rest_ite (fun _ => ?function) fun _ => rest_ite (fun _ => ?symbol) fun _ =>
        rest_ite (fun _ => ?monadic) fun _ => rest_ite (fun _ => ?parenthesised) fun _ =>
        rest_ite (fun _ => ?conditional) fun _ => rest_ok 1 one_unit ((hc.tick 1).pv_some hv)
      case function =>
        refine rest_bind (hc.call hf (ih.readFn i1 m1)) hc fun i2 f m2 q2 hk => ?_
        exact hadv i2 f m2 _ (hc.trans hk.run).weaken hk.2.2.1
      case symbol =>
        refine rest_ite (fun _ => ?_) fun _ => hadv i1 a m1 _ hc hv
        refine rest_bind (hc.call hf (ih.readFnArgs i1 m1)) hc fun i2 fa m2 q2 hk => ?_
        replace hc := (hc.trans hk.run).weaken (d0 := -92)
        refine rest_ite (fun _ => ?sysComment) fun _ => rest_ite (fun _ => ?sysModule) fun _ =>
          hadv i2 _ m2 _ hc rfl
        case sysComment =>
          split
          · exact rest_err 1 one_unit hc
          · refine rest_readSysComment hg hc fun i3 st h3 hst => ?_
            replace hc := hc.to h3
            exact rest_tail 2 hst (hc.call hf (ih.factor i3 ign m2)) hc
              fun _ _ _ h => ((hc.tick 2).trans h.run).pv h.2.2.1
        case sysModule =>
          split
          · exact rest_err 1 one_unit hc
          · exact hadv i2 _ _ _ hc rfl
      case monadic =>
        refine rest_onAdverb (fun i3 adv h3 => ?_) ?_
        · replace hc := hc.adv h3.1 h3.2
          exact rest_call (hc.call hf (ih.applyAdverbs i3 a adv 1 false .none m1)) hc
            fun _ _ _ h => (hc.trans h.run).pv_some h.2.2.1
        · refine rest_bind (hc.call hf (ih.expr i1 ign m1)) hc fun i2 x m2 q2 hk => ?_
          exact rest_ok 1 one_unit (((hc.trans hk.run).tick 1).pv_some rfl)
      case parenthesised =>
        refine rest_bind (hc.call hf (ih.expr i1 ign m1)) hc fun i2 x m2 q2 hk => ?_
        refine rest_expect (hc.trans hk.run) fun hc => rest_ok 1 one_unit ((hc.tick 1).pv fun hx => ?_)
        exact Nat.le_succ_of_le (hk.2.2.1 hx)
      case conditional =>
        exact rest_call (hc.call hf (ih.readCond i1 m1)) hc
          fun _ _ _ h => (hc.trans h.run).pv_some h.2.2.1

theorem spec_succ {cfg : Cfg} (hg : cfg.guardEmptyMarker = true) {t : Text} {fuel : Nat} (ih : Spec cfg t fuel) :
    Spec cfg t (fuel + 1) :=
  { prog := step_prog ih, progLoop := step_progLoop ih, expr := step_expr ih, exprLoop := step_exprLoop ih,
    readFn := step_readFn ih, applyAdverbs := step_applyAdverbs ih, readFnArgs := step_readFnArgs ih,
    fnArgsLoop := step_fnArgsLoop ih, readCond := step_readCond ih, readExprArray := step_readExprArray ih,
    exprArrayLoop := step_exprArrayLoop ih, factor := step_factor hg ih }

theorem spec_all (cfg : Cfg) (hg : cfg.guardEmptyMarker = true) (t : Text) : ∀ fuel, Spec cfg t fuel
  | 0 => spec_zero cfg t
  | fuel + 1 => spec_succ hg (spec_all cfg hg t fuel)

end Klong.C12
