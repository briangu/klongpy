/-
  C05 — compiled and interpreted execution of an expression are indistinguishable.

  One order on results, `Res.le r s` ("whenever `r` returns a value, `s` returns the same one"): each generated
  operation refines the verb the interpreter applies (over the numpy backend tables as regenerated from the
  checked tree), hence the generated expression refines the interpreter (induction on `Lower`, the relation
  `_ast_to_ir` computes), hence falling back on an exception changes nothing, at the call site and at every
  node of the interpreter with the memoised fast path.
-/
import Klong.Model.C05
import Klong.Props.Assoc
namespace Klong.C05
open Tables

/-! ## refinement of results -/

def Res.le (r s : Res) : Prop := ∀ v, r = .ok v → s = .ok v

theorem Res.le_of_eq {r s : Res} (h : r = s) : r.le s := fun _ hv => h ▸ hv

theorem Res.le_refl (r : Res) : r.le r := Res.le_of_eq rfl

theorem Res.raised_le (s : Res) : Res.raised.le s := fun _ h => nomatch h

theorem Res.bind_le_bind {r s : Res} {f g : NV → Res} (hr : r.le s) (hf : ∀ a, r = .ok a → (f a).le (g a)) :
    (r.bind f).le (s.bind g) := by
  cases r with
  | raised => exact Res.raised_le _
  | ok a =>
    rw [hr a rfl]
    exact hf a rfl

/-- generated code evaluates the left operand first, the interpreter the right one -/
theorem Res.bind_comm (r s : Res) (f : NV → NV → Res) :
    (r.bind fun a => s.bind fun b => f a b) = s.bind fun b => r.bind fun a => f a b := by
  cases r <;> cases s <;> rfl

theorem orElse_eq_of_le {r s : Res} (h : r.le s) : orElse r s = s := by
  cases r with
  | raised => rfl
  | ok v => exact (h v rfl).symm

/-! ## node lemmas -/

theorem wrap64_of_inRange {n : Int} (h : inRange n = true) : wrap64 n = n := by
  simp only [inRange, minI64, maxI64, Bool.and_eq_true] at h
  have h1 := of_decide_eq_true h.1
  have h2 := of_decide_eq_true h.2
  simp only [wrap64, minI64]
  omega

theorem scNp_eq_exact (op : AOp) (a b : Sc)
    (ha : scInRange a = true) (hb : scInRange b = true) (hr : scInRange (scExact op a b) = true) :
    scNp op a b = some (scExact op a b) := by
  cases a <;> cases b <;> simp_all [scNp, scExact, scInRange, wrap64_of_inRange]

theorem scNegNp_eq_exact (a : Sc) (ha : scInRange a = true) (hr : scInRange (scNegExact a) = true) :
    scNegNp a = some (scNegExact a) := by
  cases a <;> simp_all [scNegNp, scNegExact, scInRange, wrap64_of_inRange]

theorem numBin_scalars (f : Sc → Sc → Option Sc) (x y : Sc) :
    numBin f [] [x] [] [y] = (f x y).map NV.sc := by
  cases h : f x y <;> simp [numBin, padShape, bshape, bdata, mkNum, h]

theorem npBin_scalars (op : AOp) (x y : Sc) :
    npBin op (.sc x) (.sc y) = optRes ((scNp op x y).map NV.sc) := by
  simp [npBin, genBin, numBin_scalars]

/-- Python's operator and the ufunc differ only between two scalars, and there only outside int64 -/
theorem pyBin_eq_npBin {op : String} {o : AOp} (ho : aopOf op = some o) {a b : NV}
    (hadm : dyadAdm op a b = true) : pyBin o a b = npBin o a b := by
  cases a <;> cases b <;> simp only [pyBin]
  rename_i x y
  simp only [dyadAdm, ho, Bool.and_eq_true] at hadm
  simp [npBin_scalars, scNp_eq_exact o x y hadm.1.1 hadm.1.2 hadm.2, optRes]

theorem dyad_node {op : String} {t : String × String × String} {f : NV → NV → Res}
    (ht : (op, t) ∈ numpyTables.binop ++ numpyTables.cmp) (hf : binSem t = some f)
    (a b : NV) (hadm : dyadAdm op a b = true) : (f a b).le (kgDyad op a b) := by
  simp only [numpyTables, numpyBinop, numpyCmp, List.cons_append, List.nil_append, List.mem_cons,
    Prod.mk.injEq, List.not_mem_nil, or_false] at ht
  -- string literals in `binSem` and `kgDyad` are compared by `simp`: `whnf` on `String` equality
  -- (`decide`, `rfl`) is very slow
  rcases ht with ⟨rfl, rfl⟩ | ⟨rfl, rfl⟩ | ⟨rfl, rfl⟩ | ⟨rfl, rfl⟩ | ⟨rfl, rfl⟩ |
      ⟨rfl, rfl⟩ | ⟨rfl, rfl⟩ | ⟨rfl, rfl⟩ <;>
    (simp [binSem] at hf
     subst hf
     simp only [kgDyad, String.reduceEq, ↓reduceIte])
  -- rows in table order, `% * + - ^` then `< = >`: `* + -` are Python's operators, every other row
  -- calls the interpreter's own verb
  · exact Res.le_refl _
  · exact Res.le_of_eq (pyBin_eq_npBin rfl hadm)
  · exact Res.le_of_eq (pyBin_eq_npBin rfl hadm)
  · exact Res.le_of_eq (pyBin_eq_npBin rfl hadm)
  · exact Res.le_refl _
  · exact Res.le_refl _
  · exact Res.le_refl _
  · exact Res.le_refl _

/-- what Over and Scan-Over do before they reach the ufunc: `unmod` and atoms are returned as they are.
    `kgOver op` and `kgScan op` unfold to `atomOr _` once `op` is known; the `exact`s of `reduce_node`
    and `scan_node` rely on that. -/
def atomOr (g : NV → Res) (a : NV) : Res :=
  if a == NV.unmod then .ok .unmod else if isAtom a then .ok a else g a

theorem reduceInit_le (o : AOp) (a : NV) : (npReduceInit o a).le (atomOr (ufuncReduce o) a) := by
  cases a with
  | arr x | obj xs =>
    -- an empty operand raises in generated code; a non-empty one reaches the ufunc on both sides
    simp only [npReduceInit, atomOr]
    split
    · exact Res.raised_le _
    · simp [*, Res.le_refl]
  | _ => exact Res.le_refl _

theorem reduceNumeric_le (o : AOp) (a : NV) : (npReduceNumeric o a).le (atomOr (overMinMax o) a) := by
  cases a with
  | obj xs => exact Res.raised_le _
  | arr x => exact reduceInit_le o (.arr x)
  | _ => exact Res.le_refl _

theorem accumulate_le (o : AOp) (a : NV) : (npAccumulate o a).le (atomOr (ufuncAccumulate o) a) := by
  cases a with
  | arr x | obj xs => simp [npAccumulate, atomOr, Res.le_refl]
  | unmod => exact Res.le_refl _
  | _ => exact Res.raised_le _

theorem reduce_node {op : String} {t : String × String} {f : NV → Res}
    (ht : (op, t) ∈ numpyTables.reduce) (hf : unSem t = some f) (a : NV) : (f a).le (kgOver op a) := by
  simp only [numpyTables, numpyReduce, List.mem_cons, Prod.mk.injEq, List.not_mem_nil, or_false] at ht
  rcases ht with ⟨rfl, rfl⟩ | ⟨rfl, rfl⟩ | ⟨rfl, rfl⟩ | ⟨rfl, rfl⟩ <;>
    (simp [unSem] at hf
     subst hf
     simp only [kgOver, String.reduceEq, ↓reduceIte])
  -- rows in table order: `& * + |`
  · exact reduceNumeric_le .min a
  · exact reduceInit_le .mul a
  · exact reduceInit_le .add a
  · exact reduceNumeric_le .max a

theorem scan_node {op : String} {t : String × String} {f : NV → Res}
    (ht : (op, t) ∈ numpyTables.scan) (hf : unSem t = some f) (a : NV) : (f a).le (kgScan op a) := by
  simp only [numpyTables, numpyScan, List.mem_cons, Prod.mk.injEq, List.not_mem_nil, or_false] at ht
  rcases ht with ⟨rfl, rfl⟩ | ⟨rfl, rfl⟩ <;>
    (simp [unSem] at hf
     subst hf
     simp only [kgScan, String.reduceEq, ↓reduceIte])
  -- rows in table order: `* +`
  · exact accumulate_le .mul a
  · exact accumulate_le .add a

theorem negate_node {f : NV → Res} (hf : unSem numpyTables.negate = some f) (a : NV) :
    (f a).le (kgMonad negateOp a) := by
  simp [numpyTables, numpyNegate, unSem] at hf
  subst hf
  exact Res.le_refl _

/-! ## `_ast_to_ir` as a relation -/

theorem findRef_get {refs : List String} {s : String} {i : Nat} (h : findRef refs s = some i) :
    refs[i]? = some s := by
  fun_induction findRef refs s generalizing i
  -- no reference; the head is `s`; `s` is found further on
  next => cases h
  next =>
    cases h
    rfl
  next ih =>
    obtain ⟨j, hj, rfl⟩ := Option.map_eq_some_iff.mp h
    simpa using ih hj

/-- the shape of every result of `_ast_to_ir`: `e` becomes `ir` while `var_refs` grows from `refs` to `refs'`;
    a variable becomes its position in `var_refs` (`seen`) or is appended to it (`fresh`).  Left out, as no
    theorem needs them: the admission tests on variables and operators, and that `fresh` is taken only for a
    variable not yet in `var_refs`. -/
inductive Lower : Expr → List String → IR → List String → Prop
  | lit {v t refs} : Lower (.lit v t) refs (.literal v t) refs
  | seen {s refs i} : refs[i]? = some s → Lower (.var s) refs (.var i) refs
  | fresh {s refs} : Lower (.var s) refs (.var refs.length) (refs ++ [s])
  | binop {op l r refs li r1 ri r2} : Lower l refs li r1 → Lower r r1 ri r2 →
      Lower (.dyad op l r) refs (.binop op li ri) r2
  | cmp {op l r refs li r1 ri r2} : Lower l refs li r1 → Lower r r1 ri r2 →
      Lower (.dyad op l r) refs (.cmp op li ri) r2
  | negate {x refs xi r1} : Lower x refs xi r1 → Lower (.monad negateOp x) refs (.negate xi) r1
  | reduce {op x refs xi r1} : Lower x refs xi r1 → Lower (.over op x) refs (.reduce op xi) r1
  | scan {op x refs xi r1} : Lower x refs xi r1 → Lower (.scan op x) refs (.scan op xi) r1

theorem lower_of_astToIR {admits : String → Bool} {e : Expr} {refs refs' : List String} {ir : IR}
    (h : astToIR admits e refs = some (ir, refs')) : Lower e refs ir refs' := by
  -- each branch of `astToIR` that returns `some` is one constructor of `Lower`.  `constructor` takes the
  -- first whose conclusion unifies with the goal; `cases h` has made explicit what tells them apart: the
  -- final `var_refs` is `refs` for `seen` and `refs ++ [s]` for `fresh`, the IR node is `.binop` or `.cmp`
  fun_induction astToIR admits e refs generalizing ir refs' <;> cases h <;> constructor <;>
    solve_by_elim only [findRef_get, *]

theorem Lower.prefix {e refs ir refs'} (h : Lower e refs ir refs') : refs <+: refs' := by
  induction h with
  | fresh => exact List.prefix_append ..
  | binop _ _ ihl ihr | cmp _ _ ihl ihr => exact ihl.trans ihr
  | negate _ ih | reduce _ ih | scan _ ih => exact ih
  | _ => exact List.prefix_refl _

/-- `_collect_params` lists the parameters in the order `_ast_to_ir` numbered them -/
theorem Lower.collect_range {e refs ir refs'} (h : Lower e refs ir refs') :
    collect ir (List.range refs.length) = List.range refs'.length := by
  induction h with
  | lit => rfl
  | seen hi => simp [collect, (List.getElem?_eq_some_iff.mp hi).1]
  | fresh => simp [collect, List.range_succ]
  | binop _ _ ihl ihr | cmp _ _ ihl ihr => simp [collect, ihl, ihr]
  | negate _ ih | reduce _ ih | scan _ ih => simpa [collect] using ih

/-! ## the generated expression refines the interpreter -/

theorem getElem?_of_prefix {α : Type} {l l' : List α} (h : l <+: l') {i : Nat} {x : α} (hi : l[i]? = some x) :
    l'[i]? = some x := by
  obtain ⟨ext, rfl⟩ := h
  rw [List.getElem?_append_left (List.getElem?_eq_some_iff.mp hi).1, hi]

theorem eval_un_le {t : String × String} {x : PyExpr} {ρ : Nat → Res} {s : Res} {K : NV → Res}
    (hK : ∀ f, unSem t = some f → ∀ a, (f a).le (K a)) (hx : (x.eval ρ).le s) :
    ((PyExpr.un t x).eval ρ).le (s.bind K) := by
  simp only [PyExpr.eval]
  split
  · exact Res.raised_le _
  · exact Res.bind_le_bind hx fun a _ => hK _ ‹_› a

/-- with every parameter bound to the value of its own variable, and every `+ - *` between scalars inside
    int64, the generated expression returns what the interpreter returns, or raises -/
theorem Lower.sound {e refs ir refs'} (h : Lower e refs ir refs') {env : Env} {ρ : Nat → Res} {py : PyExpr}
    (hpy : irToPy numpyTables ir = some py) (hρ : ∀ i s, refs'[i]? = some s → ρ i = envGet env s)
    (hadm : admTree env e = true) : (py.eval ρ).le (Interp.eval env e) := by
  induction h generalizing py with
  | lit =>
    cases hpy
    simp only [PyExpr.eval, Interp.eval]
    split
    · exact Res.raised_le _
    · exact Res.le_refl _
  | seen hi =>
    cases hpy
    exact Res.le_of_eq (hρ _ _ hi)
  | fresh =>
    cases hpy
    exact Res.le_of_eq (hρ _ _ List.getElem?_concat_length)
  | binop _ hlow ihl ihr | cmp _ hlow ihl ihr =>
    simp only [admTree, Bool.and_eq_true] at hadm
    obtain ⟨⟨hnode, hal⟩, har⟩ := hadm
    simp only [irToPy] at hpy
    split at hpy <;> cases hpy
    rename_i hl' hr' ht
    -- the left operand was lowered under a prefix of the final `var_refs`
    have hl := ihl hl' (fun i s hi => hρ i s (getElem?_of_prefix hlow.prefix hi)) hal
    have hr := ihr hr' hρ har
    simp only [PyExpr.eval, Interp.eval]
    split
    · exact Res.raised_le _
    · rename_i f hf
      rw [Res.bind_comm]
      refine Res.bind_le_bind hr fun b hb => Res.bind_le_bind hl fun a ha => ?_
      refine dyad_node (by simp [mem_of_lookup ht]) hf a b ?_
      simpa only [admNode, hl a ha, hr b hb, resVal] using hnode
  | negate _ ih =>
    simp only [irToPy] at hpy
    split at hpy <;> cases hpy
    exact eval_un_le (fun f hf => negate_node hf) (ih ‹_› hρ hadm)
  | reduce _ ih =>
    simp only [irToPy] at hpy
    split at hpy <;> cases hpy
    exact eval_un_le (fun f hf => reduce_node (mem_of_lookup ‹_›) hf) (ih ‹_› hρ hadm)
  | scan _ ih =>
    simp only [irToPy] at hpy
    split at hpy <;> cases hpy
    exact eval_un_le (fun f hf => scan_node (mem_of_lookup ‹_›) hf) (ih ‹_› hρ hadm)

/-! ## the call: positional arguments reach their own parameters -/

theorem compile_some {T : BTables} {admits : String → Bool} {e : Expr} {c : Compiled}
    (h : compile T admits e = some c) :
    ∃ ir, Lower e [] ir c.varSyms ∧ irToPy T ir = some c.py ∧ c.params = collect ir [] := by
  revert h
  fun_cases compile T admits e <;> intro h <;> cases h
  exact ⟨_, lower_of_astToIR ‹_›, ‹_›, rfl⟩

/-- **parameter order**: the generated `def _expr(_v0, …)` takes its parameters in the order of
    `var_syms`, for either backend's tables -/
theorem params_match_var_syms (T : BTables) (admits : String → Bool) (e : Expr) (c : Compiled)
    (h : compile T admits e = some c) : c.params = List.range c.varSyms.length := by
  obtain ⟨ir, hl, _, hp⟩ := compile_some h
  rw [hp]
  exact hl.collect_range

/-- `args = [ctx[s] for s in var_syms]` -/
theorem fetch_spec {env : Env} {syms : List String} {args : List NV} (h : fetch env syms = some args) :
    args.length = syms.length ∧
      ∀ (i : Nat) (s : String), syms[i]? = some s → ∃ v, args[i]? = some v ∧ env s = some v := by
  fun_induction fetch env syms generalizing args <;> cases h
  next => exact ⟨rfl, fun i s hi => nomatch hi⟩
  next t r v vs hvs hv ih =>
    obtain ⟨hl, hg⟩ := ih hvs
    refine ⟨congrArg (· + 1) hl, fun i s hi => ?_⟩
    cases i with
    | zero =>
      obtain rfl : t = s := by simpa using hi
      exact ⟨v, rfl, hv⟩
    | succ j => exact hg j s (by simpa using hi)

/-- positional passing; numbered from `k` on for the induction -/
theorem lookupArg_range' (args : List NV) (k i : Nat) :
    lookupArg ((List.range' k args.length).zip args) (k + i) = optRes args[i]? := by
  induction args generalizing k i with
  | nil => rfl
  | cons v vs ih =>
    simp only [List.length_cons, List.range'_succ, List.zip_cons_cons, lookupArg]
    cases i with
    | zero => simp [optRes]
    | succ j =>
      rw [if_neg (by omega), List.getElem?_cons_succ, ← ih (k + 1) j]
      congr 1
      omega

theorem lookupArg_fetch {env : Env} {syms : List String} {args : List NV}
    (h : fetch env syms = some args) (k : Nat) {i : Nat} {s : String} (hi : syms[i]? = some s) :
    lookupArg ((List.range' k syms.length).zip args) (k + i) = envGet env s := by
  obtain ⟨hl, hg⟩ := fetch_spec h
  obtain ⟨v, hv, he⟩ := hg i s hi
  rw [← hl, lookupArg_range', hv, envGet, he]
  rfl

theorem admTree_of_adm {env : Env} {e : Expr} (h : Adm env e = true) : admTree env e = true := by
  simp only [Adm, Bool.and_eq_true] at h
  exact h.2

/-- the compiled callable refines the interpreter whenever the scalar arithmetic of `e` stays in int64;
    that the variables are bound (the other half of `Adm`) is not needed: `fetch` fails otherwise -/
theorem compiled_le_interp {admits : String → Bool} {callOK : NV → Bool} {env : Env} {e : Expr}
    {c : Compiled} (hc : compile numpyTables admits e = some c) (hadm : admTree env e = true) :
    (runCompiled callOK c env).le (Interp.eval env e) := by
  obtain ⟨ir, hl, hpy, _⟩ := compile_some hc
  simp only [runCompiled]
  -- the three ways the call itself fails (`fetch`, the arity, `callOK`) raise
  split
  · exact Res.raised_le _
  rename_i args hargs
  split
  · exact Res.raised_le _
  split
  · exact Res.raised_le _
  refine hl.sound hpy (fun i s hi => ?_) hadm
  rw [params_match_var_syms _ _ _ _ hc, List.range_eq_range']
  simpa using lookupArg_fetch hargs 0 hi

/-- **the compiled callable returns the interpreter's value**: whatever the variables were bound to
    when the expression was compiled (`admits`), whatever they are bound to now (`env`, within `Adm`),
    if the generated function returns `v` then the tree-walking interpreter returns `v` -/
theorem compiled_value_is_interp_value (admits : String → Bool) (callOK : NV → Bool) (env : Env) (e : Expr)
    (c : Compiled) (hc : compile numpyTables admits e = some c) (hadm : Adm env e = true) :
    ∀ v, runCompiled callOK c env = .ok v → Interp.eval env e = .ok v :=
  compiled_le_interp hc (admTree_of_adm hadm)

/-- **C05, the compiled callable**: what the call site observes — the compiled value, or the
    interpreter's when the compiled function raises — is what the interpreter alone gives.
    (The proof gives equality of the results themselves; so does that of `top_eq_interp`.) -/
theorem compiled_eq_interp (admits : String → Bool) (callOK : NV → Bool) (env : Env) (e : Expr)
    (c : Compiled) (hc : compile numpyTables admits e = some c) (hadm : Adm env e = true) :
    obs (orElse (runCompiled callOK c env) (Interp.eval env e)) = obs (Interp.eval env e) := by
  rw [orElse_eq_of_le (compiled_value_is_interp_value admits callOK env e c hc hadm)]

/-! ## the interpreter with the fast path, for any memo content (rebinding histories) -/

/-- every memoised callable was produced by `compile_expr` for that node, under some bindings -/
def MemoOK (memo : Expr → Option Compiled) : Prop :=
  ∀ e c, memo e = some c → ∃ admits, compile numpyTables admits e = some c

/-- a node of `Sys.eval` -/
theorem memo_orElse (callOK : NV → Bool) {memo : Expr → Option Compiled} (hm : MemoOK memo)
    (env : Env) (e : Expr) (hadm : admTree env e = true) :
    (match memo e with
      | some c => orElse (runCompiled callOK c env) (Interp.eval env e)
      | none => Interp.eval env e) = Interp.eval env e := by
  split
  · rename_i c hc
    obtain ⟨admits, hcomp⟩ := hm e c hc
    exact orElse_eq_of_le (compiled_le_interp hcomp hadm)
  · rfl

theorem system_eq_interp_of_admTree (callOK : NV → Bool) {memo : Expr → Option Compiled} (hm : MemoOK memo)
    (env : Env) (e : Expr) (hadm : admTree env e = true) : Sys.eval callOK memo env e = Interp.eval env e := by
  induction e with
  | lit | var => rfl
  | dyad op l r ihl ihr =>
    have h := hadm
    simp only [admTree, Bool.and_eq_true] at h
    simp only [Sys.eval, ihl h.1.2, ihr h.2]
    exact memo_orElse callOK hm env _ hadm
  | monad op x ih | over op x ih | scan op x ih =>
    simp only [Sys.eval, ih hadm]
    exact memo_orElse callOK hm env _ hadm

/-- **C05, every evaluation position and every rebinding history**: the interpreter that tries
    memoised compiled code at every operator and adverb node — code compiled at any earlier time under
    any bindings — computes exactly what the interpreter without a compiler computes -/
theorem system_eq_interp (callOK : NV → Bool) (memo : Expr → Option Compiled) (hm : MemoOK memo) (env : Env) :
    ∀ e, Adm env e = true → Sys.eval callOK memo env e = Interp.eval env e := by
  intro e hadm
  exact system_eq_interp_of_admTree callOK hm env e (admTree_of_adm hadm)

/-- the top-level call site (`__call__`, per-text cache): one more `memo_orElse` around
    `Sys.eval` -/
theorem top_eq_interp (callOK : NV → Bool) (memo : Expr → Option Compiled) (hm : MemoOK memo) (env : Env)
    (e : Expr) (hadm : Adm env e = true) :
    obs (Sys.top callOK memo env e) = obs (Interp.eval env e) := by
  have h := admTree_of_adm hadm
  simp only [Sys.top, system_eq_interp_of_admTree callOK hm env e h]
  exact congrArg obs (memo_orElse callOK hm env e h)

/-! ## non-vacuity -/

def envAB (a b : NV) : Env := fun s => if s = "a" then some a else if s = "b" then some b else none

/-- `(a*2)+(+/b)` with a vector and a matrix -/
def exE : Expr := .dyad "+" (.dyad "*" (.var "a") (.lit (.int 2) "2")) (.over "+" (.var "b"))
def exEnv : Env := envAB (.arr ⟨[2], [.int 1, .int 2]⟩) (.arr ⟨[2, 2], [.int 1, .int 2, .int 3, .int 4]⟩)

example : (compile numpyTables (fun _ => true) exE).map (·.py.render)
    = some "((_v0*2)+np.add.reduce(_v1, initial=None))" := by decide
example : Adm exEnv exE = true := by decide
example : (compile numpyTables (fun _ => true) exE).map (fun c => runCompiled (fun _ => true) c exEnv)
    = some (.ok (.arr ⟨[2], [.int 6, .int 10]⟩)) := by decide
example : Interp.eval exEnv exE = .ok (.arr ⟨[2], [.int 6, .int 10]⟩) := by decide
example : MemoOK (fun e => if e = exE then compile numpyTables (fun _ => true) exE else none) := by
  intro e c h
  dsimp only at h
  split at h
  next he => exact ⟨_, he ▸ h⟩
  next => cases h
/-- `Adm` does exclude something: Python's exact product vs int64 -/
example : Adm (envAB (.sc (.int 4611686018427387904)) (.sc (.int 4))) (.dyad "*" (.var "a") (.var "b")) = false := by
  decide
/-- the fallback is exercised: `+/[]` raises in generated code, the interpreter answers `[]` -/
example : (compile numpyTables (fun _ => true) (.over "+" (.var "a"))).map
    (fun c => runCompiled (fun _ => true) c (envAB (.arr ⟨[0], []⟩) .undef)) = some .raised := by decide
example : Interp.eval (envAB (.arr ⟨[0], []⟩) .undef) (.over "+" (.var "a")) = .ok (.arr ⟨[0], []⟩) := by decide

/-! ## the pre-repair code generation: the three deviations named in the property, as witnesses

`pinnedNumpy` is the numpy table of the pinned tree before the `fix:` commits (Python `/ **`,
`((l==r)*1)`, `np.add.reduce(x)`, `np.cumsum(x)`). -/

def pinnedNumpy : BTables :=
  ⟨[("%", ("(", "/", ")")), ("*", ("(", "*", ")")), ("+", ("(", "+", ")")), ("-", ("(", "-", ")")), ("^", ("(", "**", ")"))],
   [("<", ("((", "<", ")*1)")), ("=", ("((", "==", ")*1)")), (">", ("((", ">", ")*1)"))],
   ("(-", ")"),
   [("&", ("np.minimum.reduce(", ")")), ("*", ("np.multiply.reduce(", ")")), ("+", ("np.add.reduce(", ")")), ("|", ("np.maximum.reduce(", ")"))],
   [("*", ("np.cumprod(", ")")), ("+", ("np.cumsum(", ")"))]⟩

def observed (T : BTables) (env : Env) (e : Expr) : Option Obs :=
  (compile T (fun _ => true) e).map fun c => obs (orElse (runCompiled (fun _ => true) c env) (Interp.eval env e))

/-- `a::[[1 2] [3 4]]; +\a`: `np.cumsum` flattens — `[1 3 6 10]` compiled, `[[1 2] [4 6]]` interpreted -/
theorem pinned_scan_rank2_differs :
    let env := envAB (.arr ⟨[2, 2], [.int 1, .int 2, .int 3, .int 4]⟩) .undef
    let e := Expr.scan "+" (.var "a")
    observed pinnedNumpy env e = some (.val (.arr ⟨[4], [.int 1, .int 3, .int 6, .int 10]⟩)) ∧
    obs (Interp.eval env e) = .val (.arr ⟨[2, 2], [.int 1, .int 2, .int 4, .int 6]⟩) ∧
    observed numpyTables env e = some (obs (Interp.eval env e)) := by decide

/-- `e::[]; +/e`: the ufunc's identity `0.0` compiled, `[]` interpreted -/
theorem pinned_reduce_empty_differs :
    let env := envAB (.arr ⟨[0], []⟩) .undef
    let e := Expr.over "+" (.var "a")
    observed pinnedNumpy env e = some (.val (.sc (.real 0))) ∧
    obs (Interp.eval env e) = .val (.arr ⟨[0], []⟩) ∧
    observed numpyTables env e = some (obs (Interp.eval env e)) := by decide

def powEnv : Env := envAB (.sc (.int 4)) .undef
/-- `4602678819172646912` = the bits of `0.5` -/
def powE : Expr := .dyad "^" (.var "a") (.lit (.real 4602678819172646912) "0.5")

/-- `a::4; a^0.5`: Python `**` gives a real whatever its value (`2.0`); the interpreter's Power gives an
    integer as soon as the result is integral (the float comparison is not computed by the kernel: the
    check replays it on the real interpreter) -/
theorem pinned_power_kind_differs :
    (∃ b, (compile pinnedNumpy (fun _ => true) powE).map (fun c => runCompiled (fun _ => true) c powEnv)
        = some (.ok (.sc (.real b)))) ∧
    (∀ bits : UInt64,
        scPow (Sc.ofFloat (Float.ofInt 4)) (.real 4602678819172646912) = some (.real bits) →
        (fTrunc (Float.ofBits bits) == Float.ofBits bits) = true → (Float.ofBits bits).isInf = false →
        Interp.eval powEnv powE = .ok (.sc (.int (floatToIntExact (Float.ofBits bits))))) := by
  refine ⟨⟨_, rfl⟩, ?_⟩
  intro bits hb hint hinf
  simp [scPow, Sc.ofFloat, Sc.toFloat] at hb
  subst hb
  simp [powEnv, powE, Interp.eval, envGet, envAB, Res.bind, kgDyad, kgPower, vecFn2, ePower, genBin,
    numBin_scalars, scPow, Sc.toFloat, Sc.ofFloat, optRes, scIntegral, hint, hinf]

end Klong.C05
