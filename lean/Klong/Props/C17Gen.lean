/-
  C17 — the repaired write path, outright.

  `Klong.Props.C17` proves crash safety for every *well-formed* trace; well-formedness of a
  recorded trace is a per-run kernel obligation.  This file removes the hypothesis for the model of
  the repaired `_write_file` (skeleton `skFixedOf rl`, extracted from the AST on every run and
  compared with it by the kernel): for every sequence of sets the generated trace is well-formed
  under the strict variant, hence crash safe.
-/
import Klong.Props.C17
namespace Klong.C17
open Klong.Wire

def ChainFrom (base : Path) : List Path → Prop
  | [] => True
  | a :: as => (∃ x, a = base ++ [x]) ∧ ChainFrom a as

theorem ChainFrom.map_cons (x : Nat) {l : List Path} {b : Path} (h : ChainFrom b l) :
    ChainFrom (x :: b) (l.map (x :: ·)) := by
  induction l generalizing b with
  | nil => trivial
  | cons a as ih =>
    obtain ⟨⟨y, e⟩, h⟩ := h
    exact ⟨⟨y, congrArg (x :: ·) e⟩, ih h⟩

theorem chainFrom_ancestors (k : Path) (hk : k ≠ []) : ChainFrom [] (ancestors k ++ [k]) := by
  -- the cases of `ancestors`: `[]` (1); one component, no ancestors (2); `x :: y :: rest` (3)
  induction k using ancestors.induct with
  | case1 => exact absurd rfl hk
  | case2 x => exact ⟨⟨x, rfl⟩, trivial⟩
  | case3 x y rest ih =>
    have := (ih (List.cons_ne_nil _ _)).map_cons x
    rw [List.map_append] at this
    exact ⟨⟨x, rfl⟩, this⟩

theorem ChainFrom.length_lt {l : List Path} {base b : Path} (h : ChainFrom base l) (hb : b ∈ l) :
    base.length < b.length := by
  induction l generalizing base with
  | nil => exact nomatch hb
  | cons a as ih =>
    obtain ⟨⟨x, e⟩, h⟩ := h
    have ha : base.length < a.length := by simp [e]
    rcases List.mem_cons.mp hb with rfl | hb
    · exact ha
    · exact Nat.lt_trans ha (ih h hb)

theorem ChainFrom.left_of_append {l1 l2 : List Path} {b : Path} (h : ChainFrom b (l1 ++ l2)) :
    ChainFrom b l1 := by
  induction l1 generalizing b with
  | nil => trivial
  | cons a l1 ih => exact ⟨h.1, ih h.2⟩

theorem ChainFrom.parent_mem {A : List Path} {k base x : Path} (h : ChainFrom base (A ++ [k]))
    (hx : x ∈ A ++ [k]) : parent x = base ∨ parent x ∈ A := by
  induction A generalizing base with
  | nil =>
    obtain ⟨⟨y, e⟩, _⟩ := h
    obtain rfl := List.mem_singleton.mp hx
    exact Or.inl (e ▸ List.dropLast_concat)
  | cons a A ih =>
    obtain ⟨⟨y, e⟩, h⟩ := h
    rcases List.mem_cons.mp hx with rfl | hx
    · exact Or.inl (e ▸ List.dropLast_concat)
    · exact (ih h hx).elim (fun e' => Or.inr (e' ▸ List.mem_cons_self))
        fun e' => Or.inr (List.mem_cons_of_mem _ e')

theorem fs_of_begin (v : Variant) (s : St) (k : Path) (val : Bytes) : (step v s (.begin k val)).fs = s.fs := rfl

/-- the `mkdir` calls of `os.makedirs(parent, exist_ok=True)` -/
def mkdirOps (fs : Fs) (k : Path) : List Op := ((ancestors k).filter fun a => !fs.isDir a).map Op.mkdir

/-- open, write (no system call for an empty value), fsync and close of the value file -/
def fileOps (k : Path) (val : Bytes) : List Op :=
  .creatTrunc k :: ((if val.isEmpty then [] else [.write k val]) ++ [.fsyncFile k, .close k])

theorem run_mkdirs (v : Variant) (l : List Path) : ∀ s : St,
    run v s (l.map Op.mkdir) = { s with fs := { s.fs with vdirs := l.reverse ++ s.fs.vdirs } } := by
  induction l with
  | nil => exact fun _ => rfl
  | cons a l ih =>
    intro s
    rw [List.map_cons, run, List.foldl_cons, ← run, ih]
    simp [step, Fs.step, scratchStep]

theorem isDir_mkdirs (v : Variant) : ∀ (l : List Path) (s : St),
    (run v s (l.map Op.mkdir)).fs = { s.fs with vdirs := l.reverse ++ s.fs.vdirs } :=
  fun l s => congrArg St.fs (run_mkdirs v l s)

/-- closed form of the repaired `_write_file` skeleton -/
theorem setOps_fixed (rl : Option Nat) (b : Nat) (s : St) (k : Path) (val : Bytes) :
    setOps .strict (skFixedOf rl) true b s k val =
      [.begin k val] ++ (mkdirOps s.fs k ++ (fileOps k val ++
        ((newParents rl s.fs k).map Op.fsyncDir ++ [.ret]))) := by
  simp only [setOps, skFixedOf, List.foldl_cons, List.foldl_nil, skStep, SkSt.emit, Bool.not_true,
    Bool.false_or, if_true, List.nil_append, mkdirOps, fileOps]
  -- a value that fits the BufferedWriter's buffer is written out by the flush, a longer one at
  -- once: one `write` before the fsync either way, none for an empty value
  by_cases hfit : val.length ≤ b
  · by_cases he : val = []
    · subst he
      simp [SkSt.flush, run, step]
    · simp [hfit, SkSt.flush, SkSt.emit, he, run, step]
  · have he : val ≠ [] := fun e => by simp [e] at hfit
    simp [hfit, SkSt.flush, he, run, step]

theorem run_fsyncDirs (v : Variant) (L : List Path) : ∀ s : St,
    run v s (L.map Op.fsyncDir) =
      { s with fs := { s.fs with
          ddirs := (L.reverse.flatMap fun d => s.fs.vdirs.filter (fun p => parent p == d)) ++ s.fs.ddirs
          alt := s.fs.alt.filter (fun p => L.all fun d => parent p.1 != d) } } := by
  induction L with
  | nil =>
    intro s
    have : s.fs.alt.filter (fun _ => true) = s.fs.alt := List.filter_eq_self.mpr fun _ _ => rfl
    simp [run, this]
  | cons d L ih =>
    intro s
    simp only [List.map_cons, run, List.foldl_cons] at ih ⊢
    rw [ih]
    simp [step, Fs.step, scratchStep, List.flatMap_append, List.filter_filter, Bool.and_comm]

theorem okRun_fsyncDirs (v : Variant) (L : List Path) : ∀ s : St,
    (∀ d ∈ L, s.fs.isDir d = true) → okRun v s (L.map Op.fsyncDir) = true := by
  induction L with
  | nil => exact fun _ _ => rfl
  | cons d L ih =>
    intro s hd
    obtain ⟨h1, h2⟩ := List.forall_mem_cons.mp hd
    rw [List.map_cons, okRun, Bool.and_eq_true]
    exact ⟨h1, ih _ h2⟩

/-- `mkdir -p` along a chain below an existing directory; `p` is "not there yet", kept apart from
    the state because the state changes on the way -/
theorem okRun_mkdirs (v : Variant) (k : Path) (val : Bytes) (p : Path → Bool) (l : List Path) :
    ∀ (base : Path) (s : St), s.cur = some (k, val) → ChainFrom base l → s.fs.isDir base = true →
      (∀ a ∈ l, a ∈ ancestors k ∧ s.fs.isFile a = false ∧ p a = !s.fs.isDir a) →
      okRun v s ((l.filter p).map Op.mkdir) = true := by
  induction l with
  | nil => exact fun _ _ _ _ _ _ => rfl
  | cons a as ih =>
    intro base s hc ⟨⟨x, e⟩, hrest⟩ hb h
    have hpar : parent a = base := e ▸ List.dropLast_concat
    obtain ⟨⟨hanc, hfile, hpa⟩, h⟩ := List.forall_mem_cons.mp h
    rw [List.filter_cons, hpa]
    cases hd : s.fs.isDir a
    · rw [Bool.not_false, if_pos rfl, List.map_cons, okRun, Bool.and_eq_true]
      refine ⟨by simp [ok, hc, hanc, hd, hfile, hpar, hb], ih a _ hc hrest ?_ fun b hb' => ?_⟩
      · simp [step, Fs.step, Fs.isDir]
      · obtain ⟨h1, h2, h3⟩ := h b hb'
        have hne : b ≠ a := fun e => by
          have := hrest.length_lt hb'
          simp [e] at this
        refine ⟨h1, h2, ?_⟩
        rw [h3]
        simp [step, Fs.step, Fs.isDir, hne]
    · exact ih a s hc hrest hd h

theorem fileOps_spec (t : St) (k : Path) (val : Bytes) (hc : t.cur = some (k, val)) (ho : t.fs.opened = [])
    (hp : t.fs.isDir (parent k) = true) (hd : t.fs.isDir k = false) :
    okRun .strict t (fileOps k val) = true ∧
    run .strict t (fileOps k val) =
      { t with fs := { t.fs with
          vfiles := setKV t.fs.vfiles k val
          dcont := setKV t.fs.dcont k val
          pend := setKV t.fs.pend k []
          alt := if t.fs.isFile k then t.fs.alt else setKV t.fs.alt k (fileChoices t.fs k)
          opened := [] } } := by
  by_cases he : val = [] <;> by_cases hf : t.fs.isFile k = true <;>
    simp [fileOps, he, hf, okRun, ok, allowed, curKey, hc, ho, hp, hd, run, step, Fs.step, scratchStep,
      Fs.contOf, lookup_setKV, setKV_setKV]

theorem mem_newParents (rl : Option Nat) (fs : Fs) (k : Path) {x : Path}
    (hx : (x = k ∧ fs.isFile k = false) ∨ (x ∈ ancestors k ∧ fs.isDir x = false)) :
    parent x ∈ newParents rl fs k := by
  simp only [newParents, List.mem_map]
  refine ⟨x, ?_, rfl⟩
  rcases hx with ⟨rfl, h⟩ | ⟨h1, h2⟩
  · simp [h]
  · simp [h1, h2]

theorem eq_parent_of_mem_newParents (rl : Option Nat) (fs : Fs) (k : Path) {d : Path}
    (hd : d ∈ newParents rl fs k) :
    ∃ x ∈ ancestors k ++ [k], d = parent x := by
  simp only [newParents, List.mem_map] at hd
  obtain ⟨x, hx, rfl⟩ := hd
  refine ⟨x, ?_, rfl⟩
  simp only [List.mem_append, List.mem_filter, List.mem_reverse] at hx ⊢
  rcases hx with h | h
  · right
    split at h
    · cases h
    · exact h
  · exact Or.inl h.1

/-- no key is empty, none is a directory on the path of another (or of itself) -/
def ValidKeys (K : List Path) : Prop := ∀ k ∈ K, k ≠ [] ∧ ∀ k' ∈ K, k ∉ ancestors k'

instance (K : List Path) : Decidable (ValidKeys K) := by unfold ValidKeys; exact inferInstance

/-- between sets: nothing in progress or open, every directory entry durable, no pending file-entry
    update, no scratch path -/
structure Quiet (K : List Path) (s : St) : Prop where
  cur : s.cur = none
  opened : s.fs.opened = []
  dirsDur : ∀ d ∈ s.fs.vdirs, d ∈ s.fs.ddirs
  altNil : s.fs.alt = []
  dirsAnc : ∀ d ∈ s.fs.vdirs, ∃ k ∈ K, d ∈ ancestors k
  filesKeys : ∀ f ∈ names s.fs.vfiles, f ∈ K
  scratch : s.scratch = []

/-- the hypotheses from `hv` on are `durableAs`, spelt out -/
theorem ok_ret {t : St} {k : Path} {val : Bytes} (hc : t.cur = some (k, val)) (ho : t.fs.opened = [])
    (hs : t.scratch = []) (hv : t.fs.vfiles.lookup k = some val) (hd : t.fs.dcont.lookup k = some val)
    (hp : t.fs.pend.lookup k = some []) (ha : t.fs.alt = []) (hanc : ∀ a ∈ ancestors k, a ∈ t.fs.ddirs) :
    ok t .ret = true := by
  simpa [ok, hc, ho, hs, hv, durableAs, isFile_eq_isSome, hd, Fs.pendOf, hp, Fs.altOf, ha] using hanc

theorem isDir_after_mkdirs (fs : Fs) (l : List Path) (a : Path) :
    ({ fs with vdirs := (l.filter fun a => !fs.isDir a).reverse ++ fs.vdirs } : Fs).isDir a = true ↔
      fs.isDir a = true ∨ a ∈ l := by
  simp only [isDir_iff, List.mem_append, List.mem_reverse, List.mem_filter, Bool.not_eq_true',
    ← Bool.not_eq_true]
  by_cases h : a = [] ∨ a ∈ fs.vdirs
  · rcases h with h | h <;> simp [h]
  · simp [not_or.mp h]

theorem set_ok (rl : Option Nat) (b : Nat) (K : List Path) (s : St) (k : Path) (val : Bytes)
    (hv : ValidKeys K) (hk : k ∈ K) (hq : Quiet K s) :
    okRun .strict s (setOps .strict (skFixedOf rl) true b s k val) = true ∧
    Quiet K (run .strict s (setOps .strict (skFixedOf rl) true b s k val)) := by
  obtain ⟨hkne, hkanc⟩ := hv k hk
  have hchain := chainFrom_ancestors k hkne
  -- the ancestors of a valid key are neither the root nor files, the key is no directory
  have hancne : ∀ a ∈ ancestors k, a ≠ [] := fun a ha e => by
    have := hchain.length_lt (List.mem_append_left _ ha)
    simp [e] at this
  have hancfile : ∀ a ∈ ancestors k, s.fs.isFile a = false := fun a ha =>
    Bool.eq_false_iff.mpr fun h => (hv a (hq.filesKeys a (by simpa [Fs.isFile] using h))).2 k hk ha
  have hknd : s.fs.isDir k = false :=
    Bool.eq_false_iff.mpr fun h => ((isDir_iff _ _).mp h).elim hkne fun h =>
      have ⟨k', hk', ha⟩ := hq.dirsAnc k h
      hkanc k' hk' ha
  -- after `begin` and the mkdirs every ancestor is a directory
  let M := (ancestors k).filter fun a => !s.fs.isDir a
  let s2 : St := { s with cur := some (k, val), fs := { s.fs with vdirs := M.reverse ++ s.fs.vdirs } }
  have hrun2 : run .strict (run .strict s [.begin k val]) (mkdirOps s.fs k) = s2 := run_mkdirs .strict M _
  have hdir2 : ∀ a, s2.fs.isDir a = true ↔ s.fs.isDir a = true ∨ a ∈ ancestors k :=
    isDir_after_mkdirs s.fs _
  have hpar2 : ∀ x ∈ ancestors k ++ [k], s2.fs.isDir (parent x) = true := by
    intro x hx
    rcases hchain.parent_mem hx with e | e
    · rw [e]
      rfl
    · exact (hdir2 _).mpr (Or.inr e)
  have hNP : ∀ d ∈ newParents rl s.fs k, s2.fs.isDir d = true := fun d hd =>
    have ⟨x, hx, e⟩ := eq_parent_of_mem_newParents rl s.fs k hd
    e ▸ hpar2 x hx
  -- the directory fsyncs make the file's entry and every directory entry durable
  have halt : ∀ c, (if s.fs.isFile k then s.fs.alt else setKV s.fs.alt k c).filter
      (fun p => (newParents rl s.fs k).all fun d => parent p.1 != d) = [] := by
    intro c
    rw [hq.altNil]
    cases h : s.fs.isFile k
    · have : ((newParents rl s.fs k).all fun d => parent k != d) = false :=
        List.all_eq_false.mpr ⟨parent k, mem_newParents rl s.fs k (Or.inl ⟨rfl, h⟩), by simp⟩
      simp [setKV, this]
    · rfl
  have hdur : ∀ a ∈ s2.fs.vdirs, a ∈ ((newParents rl s.fs k).reverse.flatMap fun d =>
      s2.fs.vdirs.filter (fun p => parent p == d)) ++ s.fs.ddirs := by
    intro a ha
    rcases List.mem_append.mp ha with h | h
    · obtain ⟨h1, h2⟩ := List.mem_filter.mp (List.mem_reverse.mp h)
      refine List.mem_append_left _ (List.mem_flatMap.mpr ⟨parent a, List.mem_reverse.mpr ?_, ?_⟩)
      · exact mem_newParents rl s.fs k (Or.inr ⟨h1, by simpa using h2⟩)
      · exact List.mem_filter.mpr ⟨ha, beq_self_eq_true _⟩
    · exact List.mem_append_right _ (hq.dirsDur a h)
  have hancd : ∀ a ∈ ancestors k, a ∈ s2.fs.vdirs := fun a ha =>
    ((isDir_iff _ _).mp ((hdir2 a).mpr (Or.inr ha))).resolve_left (hancne a ha)
  have hknd2 : s2.fs.isDir k = false := by
    rw [Bool.eq_false_iff, Ne, hdir2, hknd]
    simpa using hkanc k hk
  obtain ⟨hok3, hrun3⟩ := fileOps_spec s2 k val rfl hq.opened (hpar2 k (by simp)) hknd2
  rw [setOps_fixed]
  simp only [okRun_append, run_append, hrun2, hrun3, run_fsyncDirs, Bool.and_eq_true]
  -- the five segments of the set are well-formed, and the state it ends in is quiet
  refine ⟨⟨?okBegin, ?okMkdirs, hok3, ?okFsyncs, ?okRet⟩,
    { cur := rfl, opened := rfl, dirsDur := hdur, altNil := halt _, dirsAnc := ?dirsAnc
      filesKeys := ?filesKeys, scratch := rfl }⟩
  case okBegin => simpa [okRun, ok, hq.cur, hq.opened, hq.scratch, hkne, hknd] using hancfile
  case okMkdirs =>
    exact okRun_mkdirs .strict k val (fun a => !s.fs.isDir a) (ancestors k) [] _ rfl
      hchain.left_of_append rfl fun a h => ⟨h, hancfile a h, rfl⟩
  case okFsyncs => exact okRun_fsyncDirs .strict _ _ hNP
  case okRet =>
    rw [okRun, okRun, Bool.and_true]
    exact ok_ret (k := k) (val := val) rfl rfl hq.scratch (lookup_setKV_self ..)
      (lookup_setKV_self ..) (lookup_setKV_self ..) (halt _) fun a ha => hdur a (hancd a ha)
  case dirsAnc =>
    intro d hd
    rcases List.mem_append.mp hd with h | h
    · exact ⟨k, hk, (List.mem_filter.mp (List.mem_reverse.mp h)).1⟩
    · exact hq.dirsAnc d h
  case filesKeys =>
    intro f hf
    by_cases e : f = k
    · exact e ▸ hk
    · have hf' : f ∈ names (setKV s.fs.vfiles k val) := hf
      rw [mem_names_iff, lookup_setKV, if_neg e, ← mem_names_iff] at hf'
      exact hq.filesKeys f hf'

theorem quiet_init (K : List Path) : Quiet K init :=
  ⟨rfl, rfl, nofun, rfl, nofun, nofun, rfl⟩

theorem traceOf_fixed_ok (rl : Option Nat) (b : Nat) (K : List Path) (hv : ValidKeys K)
    (sets : List (Path × Bytes)) : ∀ s : St, (∀ kv ∈ sets, kv.1 ∈ K) → Quiet K s →
      okRun .strict s (traceOf .strict (skFixedOf rl) true b s sets) = true := by
  induction sets with
  | nil => exact fun _ _ _ => rfl
  | cons kv rest ih =>
    intro s hk hq
    obtain ⟨hk1, hk⟩ := List.forall_mem_cons.mp hk
    have h := set_ok rl b K s kv.1 kv.2 hv hk1 hq
    simp only [traceOf, okRun_append, h.1, Bool.true_and]
    exact ih _ hk h.2

/-- **The repaired write path is well-formed for every sequence of sets** (strict variant): any
    number of sets, any values, any io buffer size, keys not path prefixes of each other. -/
theorem fixed_write_path_wf (rl : Option Nat) (b : Nat) (sets : List (Path × Bytes)) (hv : ValidKeys (sets.map (·.1))) :
    WF .strict (traceOf .strict (skFixedOf rl) true b init sets) = true :=
  (WF_eq _ _).trans (traceOf_fixed_ok rl b _ hv sets init (fun _ h => List.mem_map_of_mem h) (quiet_init _))

/-! ### the in-place write path has no scratch files -/

def Clean (g : Ghost) (tr : List Op) : Prop :=
  ∀ pre suf, tr = pre ++ suf → (ghost g pre).scratch = [] ∧ (ghost g pre).dirty = []

theorem clean_cons {g : Ghost} {op : Op} {tr : List Op} (hg : g.scratch = [] ∧ g.dirty = [])
    (h : Clean (ghostStep g op) tr) : Clean g (op :: tr) := by
  intro pre suf e
  cases pre with
  | nil => exact hg
  | cons o pre =>
    obtain ⟨rfl, rfl⟩ := List.cons.inj e
    exact h pre suf rfl

/-- operations that leave the bookkeeping of a set of key `c` as it is: no marker, and no file
    created anywhere but at `c` -/
def inert (c : Option Path) : Op → Bool
  | .begin _ _ | .ret | .kill => false
  | .creatTrunc f => c == some f
  | _ => true

theorem ghostStep_inert {g : Ghost} {op : Op} (h : inert (g.cur.map (·.1)) op = true) :
    ghostStep g op = g := by
  cases op
  case creatTrunc f =>
    have h : (g.cur.map (·.1) == some f) = true := h
    simp only [ghostStep, scratchStep, h, Bool.true_or, if_true]
  all_goals first | rfl | cases h

theorem clean_append {g : Ghost} {l r : List Op} (hg : g.scratch = [] ∧ g.dirty = [])
    (hl : l.all (inert (g.cur.map (·.1))) = true) (h : Clean g r) : Clean g (l ++ r) := by
  induction l with
  | nil => exact h
  | cons op l ih =>
    rw [List.all_cons, Bool.and_eq_true] at hl
    refine clean_cons hg ?_
    rw [ghostStep_inert hl.1]
    exact ih hl.2

theorem clean_traceOf_fixed (rl : Option Nat) (b : Nat) (sets : List (Path × Bytes)) : ∀ (s : St) (g : Ghost),
    g.scratch = [] ∧ g.dirty = [] → Clean g (traceOf .strict (skFixedOf rl) true b s sets) := by
  induction sets with
  | nil =>
    intro _ g hg pre suf e
    obtain ⟨rfl, -⟩ := List.append_eq_nil_iff.mp e.symm
    exact hg
  | cons kv rest ih =>
    intro s g hg
    obtain ⟨k, val⟩ := kv
    have hmk : (mkdirOps s.fs k).all (inert (some k)) = true := by simp [mkdirOps, List.all_map, inert]
    have hfo : (fileOps k val).all (inert (some k)) = true := by
      cases val <;> simp [fileOps, inert]
    have hfd : ((newParents rl s.fs k).map Op.fsyncDir).all (inert (some k)) = true := by
      simp [List.all_map, inert]
    have hret : g.dirty.filter (· != k) = [] := by
      rw [hg.2]
      rfl
    rw [traceOf, setOps_fixed]
    simp only [List.cons_append, List.append_assoc, List.nil_append]
    exact clean_cons hg (clean_append hg hmk (clean_append hg hfo (clean_append hg hfd
      (clean_cons hg (ih _ _ ⟨rfl, hret⟩)))))

theorem scratchOf_fixed (rl : Option Nat) (b : Nat) (sets : List (Path × Bytes)) (pre suf : List Op)
    (htr : traceOf .strict (skFixedOf rl) true b init sets = pre ++ suf) : scratchOf pre = [] ∧ dirtyOf pre = [] :=
  clean_traceOf_fixed rl b sets init {} ⟨rfl, rfl⟩ pre suf htr

/-- **C17 for the model of the repaired code, outright**: for every sequence of sets through the
    repaired `_write_file` (any length, values, buffer size; keys prefix-free), every crash
    instant and every crash image under the strict model, every key other than the one being
    written reads its last completed value, or missing if it has none. -/
theorem kvs_crash_safe (rl : Option Nat) (b : Nat) (sets : List (Path × Bytes)) (hv : ValidKeys (sets.map (·.1)))
    (pre suf : List Op) (htr : traceOf .strict (skFixedOf rl) true b init sets = pre ++ suf) :
    ∀ c ∈ crashAfter .strict pre, ∀ k, inProgress pre ≠ some k → recover c k = lastCompleted pre k :=
  fun c hc k hk =>
    have ⟨hs, hd⟩ := scratchOf_fixed rl b sets pre suf htr
    crash_safety_core .strict _ pre suf htr (fixed_write_path_wf rl b sets hv) c hc k hk
      (hs ▸ List.not_mem_nil) (hd ▸ List.not_mem_nil)

/-- non-vacuity: the demo sequence (nested key, second key, overwrite) has valid keys, and the
    theorem gives e.g. durability of key 3 in the middle of the overwrite of 1/2 -/
example : ValidKeys (demoSets.map (·.1)) := by decide
example : ∀ c ∈ crashAfter .strict (demoFixed.take 18), recover c [3] = some [20] := by
  intro c hc
  have := kvs_crash_safe none 16 demoSets (by decide) (demoFixed.take 18) (demoFixed.drop 18)
    (by simp [demoFixed, skFixed]) c hc [3] (by decide)
  rw [this]
  decide

/-- the write path that syncs the whole chain up to the directory holding the store root
    (`skFixedOf (some 2)`: the root `7/8` has 2 components): a store on a fresh two-level root,
    well-formed by the general theorem -/
example : WF .strict (traceOf .strict (skFixedOf (some 2)) true 16 init [([7, 8, 1], [10]), ([7, 8, 1], [11])]) = true :=
  fixed_write_path_wf (some 2) 16 _ (by decide)
-- 11 + 8 operations: the overwrite syncs `7/8` and `7` again, which `skFixedOf none` would not
example : (traceOf .strict (skFixedOf (some 2)) true 16 init [([7, 8, 1], [10]), ([7, 8, 1], [11])]).length = 19 := by
  decide

end Klong.C17
