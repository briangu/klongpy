/-
  C13 — remote evaluation over IPC (model: Klong/Model/C13.lean).

  Framing rests on `decodeStream_eq_flat`: the pull-based reader computes a function of the
  concatenation of the network reads only, so every statement about cutting a stream is one about
  the flat parser.

  Dispatch rests on `roundTrip_post`, provided the pickle round trip `τ` is the identity on what
  crosses the wire (`TauId`): true of the repaired `KGUndefined`, false of the pinned one, and the
  property fails with it (`pinned_undefined_lost`).
-/
import Klong.Model.C13
namespace Klong.C13
open Klong.Wire

/-! ### framing -/

theorem unbe32_be32 (n : Nat) (h : n < 4294967296) : unbe32 (be32 n) = n := by
  simp only [be32, unbe32]
  omega

theorem be32_length (n : Nat) : (be32 n).length = 4 := rfl

theorem encode_length (m : Msg) : (encode m).length = m.id.length + 4 + m.body.length := by
  simp only [encode, List.length_append, be32_length]
  omega

/-- `readexactly` sees only the bytes still to come, `buf ++ rest.flatten`, not how they are cut -/
theorem readExactly_flat (n : Nat) {rest : List Bytes} {buf s : Bytes}
    (hs : buf ++ rest.flatten = s) :
    (s.length < n ∧ readExactly n buf rest = .error s) ∨
    (¬ s.length < n ∧
      ∃ b r, readExactly n buf rest = .ok (s.take n, b, r) ∧ b ++ r.flatten = s.drop n) := by
  induction rest generalizing buf with
  | nil =>
    simp only [List.flatten_nil, List.append_nil] at hs
    subst hs
    by_cases h : buf.length < n
    · exact .inl ⟨h, by simp [readExactly, h]⟩
    · exact .inr ⟨h, buf.drop n, [], by simp [readExactly, Nat.not_lt.1 h]⟩
  | cons c cs ih =>
    by_cases hn : n ≤ buf.length
    · subst hs
      refine .inr ⟨?_, buf.drop n, c :: cs, ?_, ?_⟩
      · rw [List.length_append]
        omega
      · simp [readExactly, hn, List.take_append_of_le_length hn]
      · simp [List.drop_append_of_le_length hn]
    · simpa [readExactly, hn, Reader.feed] using ih (buf := buf ++ c) (by simp [← hs])

def Recv.flat : Recv → Except (Stage × Nat × Nat) (Msg × Bytes)
  | .msg m b r => .ok (m, b ++ r.flatten)
  | .eof st p e => .error (st, p, e)

theorem recvMsg_flat (buf : Bytes) (rest : List Bytes) :
    (recvMsg buf rest).flat = recvFlat (buf ++ rest.flatten) := by
  generalize hs : buf ++ rest.flatten = s
  unfold recvFlat recvMsg
  rcases readExactly_flat 16 hs with ⟨l1, e1⟩ | ⟨l1, b1, r1, e1, f1⟩
  · simp only [l1, e1, if_true, Recv.flat]
  rcases readExactly_flat 4 f1 with ⟨l2, e2⟩ | ⟨l2, b2, r2, e2, f2⟩
  · simp only [l1, l2, e1, e2, if_true, if_false, Recv.flat]
  rcases readExactly_flat (unbe32 ((s.drop 16).take 4)) f2 with
    ⟨l3, e3⟩ | ⟨l3, b3, r3, e3, f3⟩
  · simp only [l1, l2, l3, e1, e2, e3, if_true, if_false, Recv.flat]
  · simp only [l1, l2, l3, e1, e2, e3, if_false, Recv.flat, f3]

theorem decodeLoop_eq_flat (f : Nat) : ∀ (buf : Bytes) (rest : List Bytes),
    decodeLoop f buf rest = decodeFlat f (buf ++ rest.flatten) := by
  induction f with
  | zero => exact fun _ _ => rfl
  | succ f ih =>
    intro buf rest
    simp only [decodeLoop, decodeFlat, ← recvMsg_flat]
    cases recvMsg buf rest with
    | eof st p e => rfl
    | msg m b r => simp only [Recv.flat, ih b r]

theorem decodeStream_eq_flat (chunks : List Bytes) :
    decodeStream chunks = decodeFlat (chunks.flatten.length + 1) chunks.flatten :=
  decodeLoop_eq_flat _ [] chunks

/-- **any two ways of cutting the same byte stream into reads decode alike** (also for
    malformed and truncated streams) -/
theorem chunking_irrelevant (c1 c2 : List Bytes) (h : c1.flatten = c2.flatten) :
    decodeStream c1 = decodeStream c2 := by
  rw [decodeStream_eq_flat, decodeStream_eq_flat, h]

theorem recvFlat_parts (i : Bytes) (n : Nat) (d : Bytes) (hi : i.length = 16)
    (hn : n < 4294967296) :
    recvFlat (i ++ (be32 n ++ d)) =
      if d.length < n then .error (.body, d.length, n) else .ok (⟨i, d.take n⟩, d.drop n) := by
  have hl (a k : Nat) : ¬ a + k < a := Nat.not_lt.2 (Nat.le_add_right a k)
  simp [recvFlat, List.drop_left' hi, List.take_left' hi, List.drop_left' (be32_length n),
    List.take_left' (be32_length n), hi, be32_length, unbe32_be32 n hn, hl]

theorem recvFlat_encode (m : Msg) (s : Bytes) (h : m.WF) :
    recvFlat (encode m ++ s) = .ok (m, s) := by
  simpa [encode, Nat.not_lt_of_le (Nat.le_add_right m.body.length s.length)] using
    recvFlat_parts m.id m.body.length (m.body ++ s) h.1 h.2

-- 20: the 16-byte id and the 4-byte length
theorem recvFlat_ok_length {s s' : Bytes} {m : Msg} (h : recvFlat s = .ok (m, s')) :
    s'.length + 20 ≤ s.length := by
  unfold recvFlat at h
  split at h
  · cases h
  split at h
  · cases h
  split at h
  · cases h
  cases h
  simp only [List.length_drop] at *
  omega

theorem decodeFlat_encodes (msgs : List Msg) (hwf : ∀ m ∈ msgs, m.WF) (f : Nat) (s : Bytes) :
    decodeFlat (msgs.length + f) ((msgs.map encode).flatten ++ s) =
      (msgs ++ (decodeFlat f s).1, (decodeFlat f s).2) := by
  induction msgs with
  | nil => simp
  | cons m ms ih =>
    rw [List.forall_mem_cons] at hwf
    simp only [List.length_cons, Nat.add_right_comm _ 1 f, List.map_cons, List.flatten_cons,
      List.append_assoc, decodeFlat, recvFlat_encode m _ hwf.1, ih hwf.2]
    rfl

theorem encodes_length_ge (msgs : List Msg) : msgs.length ≤ (msgs.map encode).flatten.length := by
  induction msgs with
  | nil => simp
  | cons m ms ih =>
    simp only [List.map_cons, List.flatten_cons, List.length_append, List.length_cons,
      encode_length]
    omega

/-- `hs`: on `s` the parser stops at once with status `t` (`s` is empty, or the beginning of a
    frame) -/
theorem decodeStream_frames (msgs : List Msg) (s : Bytes) (chunks : List Bytes) {t : Tail}
    (hcut : chunks.flatten = (msgs.map encode).flatten ++ s)
    (hwf : ∀ m ∈ msgs, m.WF) (hs : ∀ f, decodeFlat (f + 1) s = ([], t)) :
    decodeStream chunks = (msgs, t) := by
  have hl : msgs.length ≤ ((msgs.map encode).flatten ++ s).length := by
    rw [List.length_append]
    exact Nat.le_add_right_of_le (encodes_length_ge msgs)
  obtain ⟨g, hg⟩ := Nat.exists_eq_add_of_le hl
  rw [decodeStream_eq_flat, hcut, hg, Nat.add_assoc, decodeFlat_encodes msgs hwf, hs,
    List.append_nil]

/-- **framing_any_chunking**: whatever way the byte stream of `msgs` is cut into (or merged
    across) network reads, the receive loop returns exactly `msgs`, intact, one by one, in
    order, and then end-of-stream on a frame boundary. -/
theorem framing_any_chunking (msgs : List Msg) (chunks : List Bytes)
    (hcut : chunks.flatten = (msgs.map encode).flatten)
    (hwf : ∀ m ∈ msgs, m.WF) :
    decodeStream chunks = (msgs, Tail.clean) :=
  decodeStream_frames msgs [] chunks (by simpa using hcut) hwf fun _ => rfl

example : decodeStream [[0,1,2,3,4,5,6,7,8,9,10,11,12,13,14,15,0,0], [0,2,170], [187,
      1,1,1,1,1,1,1,1,1,1,1,1,1,1,1,1,0,0,0,0]] =
    ([⟨[0,1,2,3,4,5,6,7,8,9,10,11,12,13,14,15], [170, 187]⟩, ⟨[1,1,1,1,1,1,1,1,1,1,1,1,1,1,1,1], []⟩],
     Tail.clean) := by decide

/-- senders that each hand their frame to the transport in ONE write (what `stream_send_msg` does)
    may be interleaved: whatever order `msgs` the whole frames end up in, the receiver gets
    exactly those messages in that order -/
theorem whole_frame_writes_decode (msgs : List Msg) (hwf : ∀ m ∈ msgs, m.WF) :
    decodeStream (msgs.map encode) = (msgs, Tail.clean) :=
  framing_any_chunking msgs (msgs.map encode) rfl hwf

theorem decodeFlat_cut (m : Msg) (k : Nat) (h : m.WF) (hk : k < (encode m).length) (f : Nat) :
    decodeFlat (f + 1) ((encode m).take k) = ([], cutTail m k) := by
  have hlen := encode_length m
  have hi := h.1
  have l1 : ((encode m).take k).length = k := List.length_take_of_le (by omega)
  unfold cutTail
  by_cases h16 : k < 16
  · simp [decodeFlat, recvFlat, l1, h16]
  by_cases h20 : k < 20
  · have : k - 16 < 4 := by omega
    simp [decodeFlat, recvFlat, l1, h16, h20, this]
  -- from byte 20 on the id and the length are whole and the body is cut
  have hsplit : (encode m).take k = m.id ++ (be32 m.body.length ++ m.body.take (k - 20)) := by
    simp only [encode, List.take_append, hi, be32_length]
    have hb : (be32 m.body.length).length ≤ k - 16 := by
      rw [be32_length]
      omega
    rw [List.take_of_length_le (by omega), List.take_of_length_le hb, Nat.sub_sub]
  have l3 : (m.body.take (k - 20)).length = k - 20 := List.length_take_of_le (by omega)
  have : k - 20 < m.body.length := by omega
  simp [decodeFlat, hsplit, recvFlat_parts _ _ _ hi h.2, l3, h16, h20, this]

theorem cutTail_ne_clean (m : Msg) (k : Nat) (hk : 0 < k) : cutTail m k ≠ Tail.clean := by
  unfold cutTail Tail.clean
  split
  · intro h
    injection h
    omega
  · split <;> nofun

/-- **incomplete_tail**: a stream that ends `k` bytes into a frame (`0 < k < frame length`),
    cut into reads in any way, yields exactly the complete frames before it and then an
    end-of-stream *inside a frame* (the `IncompleteReadError` that C14 relies on) — never a
    partial or spurious message, never a clean end. -/
theorem incomplete_tail (msgs : List Msg) (m : Msg) (k : Nat) (chunks : List Bytes)
    (hcut : chunks.flatten = (msgs.map encode).flatten ++ (encode m).take k)
    (hwf : ∀ x ∈ msgs, x.WF) (hm : m.WF) (hk0 : 0 < k) (hk : k < (encode m).length) :
    decodeStream chunks = (msgs, cutTail m k) ∧ cutTail m k ≠ Tail.clean :=
  ⟨decodeStream_frames msgs _ chunks hcut hwf (decodeFlat_cut m k hm hk), cutTail_ne_clean m k hk0⟩

example : decodeStream [[0,1,2,3,4,5,6,7,8,9,10,11,12,13,14,15,0,0,0,2,170,187,1,1,1], [1,1,1,1,1,
      1,1,1,1,1,1,1,1,0,0], [0,5,9]] =
    ([⟨[0,1,2,3,4,5,6,7,8,9,10,11,12,13,14,15], [170, 187]⟩], .eof .body 1 5) := by decide

theorem decodeFlat_no_fuel : ∀ (f : Nat) (s : Bytes), s.length < f → (decodeFlat f s).2 ≠ .fuel
  | 0, _, h => absurd h (Nat.not_lt_zero _)
  | f + 1, s, h => by
    simp only [decodeFlat]
    cases hr : recvFlat s with
    | error t => simp
    | ok t =>
      have := recvFlat_ok_length hr
      exact decodeFlat_no_fuel f _ (by omega)

/-- the loop never runs out of rounds: the fuel status is unreachable -/
theorem decodeStream_no_fuel (chunks : List Bytes) : (decodeStream chunks).2 ≠ .fuel := by
  rw [decodeStream_eq_flat]
  exact decodeFlat_no_fuel _ _ (by omega)

/-! ### dispatch: the pickle round trip -/

mutual
/-- `tau true`: the pickle round trip with a singleton `KGUndefined` class -/
theorem tau_singleton_id : (v : Val) → tau true v = v
  | .list xs | .dict xs => by simp [tau, tauL_singleton_id xs]
  | .undef | .int _ | .real _ | .chr _ | .sym _ | .str _ | .undefCopy | .none | .fn _ _ | .fnref _
  | .proxy _ _ => by simp [tau]
theorem tauL_singleton_id : (vs : List Val) → tauL true vs = vs
  | [] => by simp [tauL]
  | x :: xs => by simp [tauL, tau_singleton_id x, tauL_singleton_id xs]
end

def TauId (τ : Val → Val) : Prop := ∀ v, v.wire = true → τ v = v

theorem tauId_repaired : TauId (tau true) := fun v _ => tau_singleton_id v

/-- `tau false`: the pinned class, a fresh `KGUndefined` per unpickle -/
theorem not_tauId_pinned : ¬ TauId (tau false) := by
  intro h
  have := h .undef rfl
  simp [tau] at this

theorem wire_of_data (v : Val) (h : v.data = true) : v.wire = true := by
  cases v <;> simp_all [Val.wire, Val.data]

theorem wrapResp_wire (r : Val) (h : okResult r = true) : (wrapResp r).wire = true := by
  cases r <;> simp_all [okResult, wrapResp, Val.wire, Val.isFn, Val.data]

theorem clientPost_wrap (a : Option String) (r : Val) (h : okResult r = true) :
    clientPost a (wrapResp r) = present a r := by
  cases r <;> cases a <;> simp_all [okResult, wrapResp, clientPost, present, Val.isFn, Val.data]

/-- the universe the property quantifies over: the arguments sent are data, the local result is
    data or a function -/
def OpOK {σ : Type} (I : Interp σ) (st : σ) : Op → Prop
  | .text e => ∀ st' r, I.evalText st e = some (st', r) → okResult r = true
  | .sym n => ∀ st' r, I.evalText st n = some (st', r) → okResult r = true
  | .call n args => (∀ a ∈ args, a.data = true) ∧
      ∀ st' r, localCall I st n args = some (st', r) → okResult r = true
  | .proxy n k args => (∀ a ∈ args, a.data = true) ∧
      ∀ st' r, localCall I st n (args.take k) = some (st', r) → okResult r = true
  | .get k => ∀ r, I.get st k = some r → okResult r = true
  | .set _ v => v.data = true

/-- `OpOK` along a history, checked against the *local* run -/
def AllOK {σ : Type} (I : Interp σ) : σ → List Op → Prop
  | _, [] => True
  | st, op :: ops => OpOK I st op ∧ ∀ st' r, localStep I st op = some (st', r) → AllOK I st' ops

/-- what `execute_server_command` evaluates on the interpreter, before the answer is wrapped -/
def localCmd {σ : Type} (I : Interp σ) (st : σ) : Cmd → Option (σ × Val)
  | .text t => I.evalText st t
  | .fnCall s ps => localCall I st s ps
  | .dictGet k => (I.get st k).map fun r => (st, r)
  | .dictSet k v => some (I.set st k v, .none)

theorem dispatch_eq_wrap {σ : Type} (I : Interp σ) (st : σ) (c : Cmd) :
    dispatch I st c = (localCmd I st c).map fun p => (p.1, wrapResp p.2) := by
  cases c with
  | fnCall s ps =>
    simp only [dispatch, localCmd, localCall]
    cases I.get st s with
    | none => rfl
    | some f => by_cases hf : f.isFn = true <;> simp [hf]
  | dictGet k => cases h : I.get st k <;> simp [dispatch, localCmd, h]
  | _ => rfl

theorem map_tau_id {τ : Val → Val} (hτ : TauId τ) (args : List Val)
    (h : ∀ a ∈ args, a.data = true) : args.map τ = args := by
  rw [List.map_congr_left (g := id) fun a ha => hτ a (wire_of_data a (h a ha)), List.map_id]

/-- one round trip seen from the client = the command evaluated on the server and its result
    presented: the server wraps functions, the transport leaves command and answer alone, the
    client turns a reference into the proxy it asked for -/
theorem roundTrip_post {σ : Type} (I : Interp σ) {τ : Val → Val} (hτ : TauId τ) (st : σ) (c : Cmd)
    (a : Option String) (hc : c.transport τ = c)
    (hres : ∀ st' r, localCmd I st c = some (st', r) → okResult r = true) :
    (roundTrip τ I st c).map (fun p => (p.1, clientPost a p.2)) =
      (localCmd I st c).map fun p => (p.1, present a p.2) := by
  rw [roundTrip, hc, dispatch_eq_wrap]
  cases h : localCmd I st c with
  | none => rfl
  | some p =>
    have hr := hres p.1 p.2 h
    simp [hτ _ (wrapResp_wire _ hr), clientPost_wrap a _ hr]

/-- **one remote operation = the same operation on the server interpreter** -/
theorem remote_step_eq_local {σ : Type} (I : Interp σ) {τ : Val → Val} (hτ : TauId τ) (st : σ)
    (op : Op) (hok : OpOK I st op) :
    remoteStep τ I st op = localStep I st op := by
  -- by definition each remote form is `clientPost` of one `roundTrip` of the command built for it,
  -- each local form `present` of `localCmd` of that command: the two sides of `roundTrip_post`
  cases op with
  | text e => exact roundTrip_post I hτ st (.text e) none rfl hok
  | sym n => exact roundTrip_post I hτ st (.text n) (some n) rfl hok
  | call n args =>
    exact roundTrip_post I hτ st (.fnCall n args) none
      (congrArg (Cmd.fnCall n) (map_tau_id hτ args hok.1)) hok.2
  | proxy n k args =>
    have h := roundTrip_post I hτ st (.fnCall n (args.take k)) none
      (congrArg (Cmd.fnCall n) (map_tau_id hτ _ fun a ha => hok.1 a (List.mem_of_mem_take ha)))
      hok.2
    -- `clientPost none` is the identity
    simp only [clientPost, Option.map_id'] at h
    exact h
  | get k =>
    have h := roundTrip_post I hτ st (.dictGet k) (some k) rfl
      (by simpa [localCmd] using fun _ r h _ => hok r h)
    rw [localCmd, Option.map_map] at h
    exact h
  | set k v =>
    -- the answer `None` is no `okResult`, so `roundTrip_post` does not apply; both sides compute
    simp [remoteStep, localStep, remoteSet, roundTrip, Cmd.transport, dispatch,
      hτ v (wire_of_data v hok)]

/-- **every sequence of remote operations = the same sequence run on the server**: same
    results one by one, same final server state -/
theorem remote_run_eq_local {σ : Type} (I : Interp σ) {τ : Val → Val} (hτ : TauId τ)
    (st : σ) (ops : List Op) (h : AllOK I st ops) :
    runWith (remoteStep τ I) st ops = runWith (localStep I) st ops := by
  induction ops generalizing st with
  | nil => rfl
  | cons op ops ih =>
    simp only [runWith, remote_step_eq_local I hτ st op h.1]
    rcases hl : localStep I st op with _ | ⟨st', r⟩
    · rfl
    · simp only [ih st' (h.2 st' r hl)]

/-- **remote_eq_local** for the repaired transport (singleton `KGUndefined`): for every
    interpreter, every state and every history of `f("expr")`, `f(:name)`, `f(:name,args)`,
    proxy calls, remote-dictionary gets and sets over the transportable universe, the results
    and the final server state equal those of the same operations evaluated on the server. -/
theorem remote_eq_local {σ : Type} (I : Interp σ) (st : σ) (ops : List Op) (h : AllOK I st ops) :
    runWith (remoteStep (tau true) I) st ops = runWith (localStep I) st ops :=
  remote_run_eq_local I tauId_repaired st ops h

/-- presenting a local result to the remote caller (a function becomes a reference or a proxy)
    never changes the outcome of `:_`; transport is not in this statement but in
    `remote_eq_local` -/
theorem present_isUndef (a : Option String) (r : Val) : (present a r).isUndef = r.isUndef := by
  cases r <;> cases a <;> simp [present, Val.isUndef]

/-! non-vacuity: a history on the concrete interpreter, and what its remote run returns -/

def demoOps : List Op :=
  [.set "foo" (.list [.int 1, .undef]), .get "foo", .call "und1" [.undef], .sym "id1",
   .proxy "snd" 2 [.int 1, .str "a"], .call "bump" [.int 5], .get "cnt"]

def demoInterp : Interp Store where
  evalText := fun s t => (s.get t).map (fun v => (s, v))     -- bare names only
  get := Store.get
  set := Store.set
  call := miniCall

example : (runWith (remoteStep (tau true) demoInterp) builtins demoOps).map (fun p => p.2.map Val.isUndef)
    = some [true, false, false, false, false, false, false] := by decide

example : (runWith (remoteStep (tau true) demoInterp) builtins [.call "und1" [.undef]]).map
    (fun p => p.2.map intOf) = some [some 1] := by decide

/-! projections with a fixed argument that is not leading keep their positions through a remote
    call -/
example : (runWith (remoteStep (tau true) demoInterp) builtins
      [.call "dec" [.int 5], .proxy "ends" 2 [.int 1, .int 3], .call "nend" [.int 4], .call "suf" [.str "abc"],
       .sym "dec"]).map (fun p => p.2.map showVal)
    = some ["i4", "L3,i1,i2,i3", "L3,i4,i2,i9", "s6162633e", "P1,y646563"] := by decide +kernel

def divZero : Interp Unit where
  evalText := fun s t => if t = "1%0" then some (s, .undef) else Option.none
  get := fun _ _ => Option.none
  set := fun s _ _ => s
  call := fun _ _ _ => Option.none

/-- with the pinned `KGUndefined` (pickle builds a second instance) `:_f("1%0")` is 0 although
    `:_1%0` is 1 on the server -/
theorem pinned_undefined_lost :
    (remoteStep (tau false) divZero () (.text "1%0")).map (fun p => p.2.isUndef) = some false ∧
    (localStep divZero () (.text "1%0")).map (fun p => p.2.isUndef) = some true := by decide

/-- … and the repaired one does not -/
example : (remoteStep (tau true) divZero () (.text "1%0")).map (fun p => p.2.isUndef) = some true := by
  decide

end Klong.C13
