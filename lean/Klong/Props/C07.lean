/-
  C07 — gradient and Jacobian computation is observationally pure.

  One relation does the work: `Fr P L s s'` says that the store is framed (`SF`) and that, if `P`
  holds, no heap cell below `L` has changed.  Every primitive and every loop of the model is
  framed.  For `numeric_grad`'s loop `P` is "the working array is a private copy, or the loop ran
  to its end" (`fr_writeBack`, `fr_gradIter`: one pass of the body puts back what it wrote), which
  is why the repaired loop is pure on every path and the pinned one only when nothing fails.
-/
import Klong.Model.C07
namespace Klong.C07

theorem lookup_set (st : Store) (n m : Name) (b : Bind) :
    lookup (set st n b) m = if m = n then some b else lookup st m := by
  induction st with
  | nil =>
    simp only [set, lookup]
    grind
  | cons p t ih =>
    obtain ⟨k, c⟩ := p
    simp only [set]
    split <;> simp only [lookup] <;> grind

/-- store frame: every name keeps its binding, except that an unbound name may have become
    bound to itself (the interpreter's treatment of undefined names) -/
def SF (a b : Store) : Prop :=
  ∀ n, lookup b n = lookup a n ∨ (lookup a n = none ∧ lookup b n = some (.sym n))

theorem SF.refl {a : Store} : SF a a := fun _ => Or.inl rfl

theorem SF.trans {a b c : Store} (h1 : SF a b) (h2 : SF b c) : SF a c := by
  intro n
  have := h1 n
  have := h2 n
  grind

theorem SF.bound {a b : Store} (h : SF a b) {n : Name} {c : Bind} (hn : lookup a n = some c) :
    lookup b n = some c := by
  have := h n
  grind

theorem SF.unbound {a b : Store} (h : SF a b) {n : Name} (hn : lookup a n = none) :
    lookup b n = none ∨ lookup b n = some (.sym n) := by
  have := h n
  grind

/-- `try … finally`: the names in `N` are rebound (`st1`), a framed computation runs (`st2`), and
    they are put back (`st3`) -/
theorem SF.bracket {st st1 st2 st3 : Store} {N : Name → Prop} [DecidablePred N]
    (h1 : ∀ m, ¬ N m → lookup st1 m = lookup st m) (h12 : SF st1 st2)
    (h3 : ∀ m, lookup st3 m = if N m then lookup st m else lookup st2 m) : SF st st3 := by
  intro m
  rw [h3 m]
  split
  · exact Or.inl rfl
  · rw [← h1 m ‹_›]
    exact h12 m

theorem SF.set_unbound {st : Store} {n : Name} (h : lookup st n = none) :
    SF st (set st n (.sym n)) := by
  intro m
  rw [lookup_set]
  grind

theorem SF.set_same {st : Store} {p : Name} {b : Bind} (h : lookup st p = some b) :
    SF st (set st p b) := by
  intro m
  rw [lookup_set]
  grind

theorem SF.to_bindSelf {st : Store} {n : Name} : SF st (bindSelf st n) := by
  unfold bindSelf
  split
  · exact SF.set_unbound ‹_›
  · exact SF.refl

theorem lookup_setMany_not_mem {l : List (Name × Bind)} {st : Store} {m : Name}
    (h : ∀ q ∈ l, q.1 ≠ m) : lookup (setMany st l) m = lookup st m := by
  induction l generalizing st with
  | nil => rfl
  | cons q t ih =>
    obtain ⟨k, c⟩ := q
    simp only [setMany]
    rw [ih (fun q hq => h q (List.mem_cons_of_mem _ hq)), lookup_set]
    have := h (k, c) (List.mem_cons_self ..)
    grind

theorem lookup_restoreFrom (orig : Store) (ps : List Name) (st : Store) (m : Name)
    (h : ∀ n ∈ ps, (lookup orig n).isSome) :
    lookup (restoreFrom orig ps st) m = if m ∈ ps then lookup orig m else lookup st m := by
  induction ps generalizing st with
  | nil => simp [restoreFrom]
  | cons n t ih =>
    obtain ⟨b, hb⟩ := Option.isSome_iff_exists.mp (h n (List.mem_cons_self ..))
    simp only [restoreFrom, hb]
    rw [ih _ (fun k hk => h k (List.mem_cons_of_mem _ hk)), lookup_set]
    grind

/-- the rebinding wrappers restore exactly what the store holds when they are entered -/
def WrapOK (w : Wrap) (st : Store) : Prop :=
  match w with
  | .rebind p orig _ => lookup st p = some orig
  | _ => True

theorem WrapOK.of_SF {w : Wrap} {a b : Store} (h : WrapOK w a) (hs : SF a b) : WrapOK w b := by
  cases w with
  | rebind p orig pa => exact hs.bound h
  | _ => trivial

/-- `Fr P L s s'`: the store is framed, and — when `P` holds: the writes are known to be fresh, or
    known to have been undone — every cell below `L` is untouched and the heap has only grown -/
def Fr (P : Prop) (L : Nat) (s s' : St) : Prop :=
  SF s.store s'.store ∧
  (P → L ≤ s.heap.length → L ≤ s'.heap.length ∧ ∀ r, r < L → s'.heap[r]? = s.heap[r]?)

theorem Fr.refl {P : Prop} {L : Nat} {s : St} : Fr P L s s :=
  ⟨SF.refl, fun _ h => ⟨h, fun _ _ => rfl⟩⟩

/-- composition; the second premise may also rest on `L` lying inside the first heap -/
theorem Fr.trans_of_imp {P Q R : Prop} {L : Nat} {a b c : St} (h1 : Fr P L a b) (h2 : Fr Q L b c)
    (hp : R → P) (hq : R → L ≤ a.heap.length → Q) : Fr R L a c := by
  refine ⟨h1.1.trans h2.1, fun hr hl => ?_⟩
  obtain ⟨hb, hb'⟩ := h1.2 (hp hr) hl
  obtain ⟨hc, hc'⟩ := h2.2 (hq hr hl) hb
  exact ⟨hc, fun r hr => by rw [hc' r hr, hb' r hr]⟩

theorem Fr.trans {P : Prop} {L : Nat} {a b c : St} (h1 : Fr P L a b) (h2 : Fr P L b c) :
    Fr P L a c :=
  h1.trans_of_imp h2 id fun hp _ => hp

theorem Fr.mono {P Q : Prop} {L : Nat} {a b : St} (h : Fr P L a b) (hq : Q → P) : Fr Q L a b :=
  ⟨h.1, fun q => h.2 (hq q)⟩

theorem Fr.of_append {P : Prop} {L : Nat} {s s' : St} {l : List Cell} (hs : SF s.store s'.store)
    (hh : s'.heap = s.heap ++ l) : Fr P L s s' := by
  refine ⟨hs, fun _ hl => ?_⟩
  rw [hh, List.length_append]
  exact ⟨by omega, fun r hr => List.getElem?_append_left (by omega)⟩

theorem Fr.of_heap_eq {P : Prop} {L : Nat} {s s' : St} (hh : s'.heap = s.heap)
    (hs : SF s.store s'.store) : Fr P L s s' :=
  Fr.of_append hs (hh.trans (List.append_nil _).symm)

theorem Fr.of_eq {P : Prop} {L : Nat} {s s' : St} (hs : s'.store = s.store) (hh : s'.heap = s.heap) :
    Fr P L s s' :=
  Fr.of_heap_eq hh (hs ▸ SF.refl)

theorem alloc_ref (s : St) (c : Cell) : (alloc s c).2 = s.heap.length := rfl

theorem writeAt_store (s : St) (x : Ref) (i : Nat) (v : Int) :
    (writeAt s x i v).store = s.store := by
  unfold writeAt
  split <;> rfl

theorem writeAt_length (s : St) (x : Ref) (i : Nat) (v : Int) :
    (writeAt s x i v).heap.length = s.heap.length := by
  unfold writeAt
  split <;> simp

theorem writeAt_get (s : St) (x : Ref) (i : Nat) (v : Int) (r : Nat) :
    (writeAt s x i v).heap[r]? =
      if r = x then (s.heap[x]?).map (fun c => { c with data := c.data.set i v })
      else s.heap[r]? := by
  unfold writeAt
  split
  next c hc =>
    -- `x` lies inside the heap: the bound `List.getElem?_set` asks for
    have hx := (List.getElem?_eq_some_iff.mp hc).1
    rw [List.getElem?_set, hc, if_pos hx]
    by_cases hr : r = x
    · simp [hr]
    · simp [hr, Ne.symm hr]
  next hc =>
    split
    next hr => rw [hr, hc, Option.map_none]
    next => rfl

theorem set_set_getD (l : List Int) (i : Nat) (a b : Int) :
    ((l.set i a).set i b).set i (l.getD i 0) = l := by
  rw [List.set_set, List.set_set]
  by_cases h : i < l.length
  · simp [List.getD, h]
  · rw [List.set_eq_of_length_le (by omega)]

theorem copyOf_eq (s : St) (x : Ref) : ∃ c, copyOf s x = alloc s c := by
  unfold copyOf
  split <;> exact ⟨_, rfl⟩

theorem copyOf_ref (s : St) (x : Ref) : (copyOf s x).2 = s.heap.length := by
  obtain ⟨c, h⟩ := copyOf_eq s x
  rw [h, alloc_ref]

theorem flattenF64_eq (s : St) (b : Bind) : flattenF64 s b = asF64 .repaired s b := by
  unfold flattenF64 asF64
  simp

section
variable {P : Prop} {L : Nat} {s : St} {x : Ref}

theorem fr_setStore {st : Store} (h : SF s.store st) : Fr P L s { s with store := st } :=
  Fr.of_heap_eq rfl h

theorem fr_alloc {c : Cell} : Fr P L s (alloc s c).1 :=
  Fr.of_append SF.refl rfl

theorem fr_writeAt {i : Nat} {v : Int} : Fr (L ≤ x) L s (writeAt s x i v) := by
  refine ⟨writeAt_store .. ▸ SF.refl, fun hx hl => ⟨?_, fun r hr => ?_⟩⟩
  · rw [writeAt_length]
    exact hl
  · rw [writeAt_get, if_neg (by omega)]

theorem fr_copyOf : Fr P L s (copyOf s x).1 := by
  obtain ⟨c, h⟩ := copyOf_eq s x
  rw [h]
  exact fr_alloc

theorem fr_copyPerturbed {j : Nat} {d : Int} : Fr P L s (copyPerturbed s x j d).1 :=
  (fr_copyOf (P := True)).trans_of_imp fr_writeAt (fun _ => trivial) fun _ hl => copyOf_ref s x ▸ hl

/-- the converters fail or allocate; the pinned `asF64` may also hand back the caller's own cell -/
theorem asF64_spec {v : Variant} {b : Bind} {s1 : St} (h : asF64 v s b = some (s1, x)) :
    Fr P L s s1 ∧ (v = .repaired → L ≤ s.heap.length → L ≤ x) := by
  unfold asF64 at h
  -- the arms of `asF64` in order: a symbol, a dangling reference (both fail), the pinned code on
  -- a float64 buffer (the caller's own cell), a fresh copy
  split at h
  · cases h
  · split at h
    · cases h
    · split at h
      · rename_i hpin
        cases h
        exact ⟨Fr.refl, fun hrep => nomatch hrep.symm.trans hpin.1⟩
      · cases h
        exact ⟨fr_alloc, fun _ hl => hl⟩

theorem fr_gradTensor {b : Bind} {s1 : St} {t : Ref} (h : gradTensor s b = some (s1, t)) :
    Fr P L s s1 := by
  unfold gradTensor at h
  -- a symbol, a dangling reference (both fail), a cell: a fresh tensor is allocated
  split at h
  · cases h
  · split at h
    · cases h
    · cases h
      exact fr_alloc

variable {sc : Script} {cfg : Cfg} {w : Wrap}

theorem callF_heap {arg : Option Ref} : (callF sc cfg arg s).1.heap = s.heap := by
  unfold callF
  -- every `match` and `if` of `callF`; no arm touches the heap
  repeat' split
  all_goals rfl

theorem callF_store {arg : Option Ref} : SF s.store (callF sc cfg arg s).1.store := by
  unfold callF
  -- the same arms: the store is left alone, except that `.unknown n true` binds `n` to itself
  repeat' split
  all_goals simp only [SF.refl, SF.to_bindSelf]

theorem invokeMulti_heap {ps : List Name} {ts : List Bind} :
    (invokeMulti sc cfg ps ts s).1.heap = s.heap := by
  unfold invokeMulti
  split
  · exact callF_heap
  · rfl

theorem invokeMulti_store {ps : List Name} {ts : List Bind} :
    SF s.store (invokeMulti sc cfg ps ts s).1.store := by
  unfold invokeMulti
  split
  · rename_i hall
    refine SF.bracket (N := (· ∈ ps)) (fun m hm => ?_) callF_store
      fun m => lookup_restoreFrom _ _ _ m (List.all_eq_true.mp hall)
    exact lookup_setMany_not_mem fun q hq heq => hm (heq ▸ (List.of_mem_zip hq).1)
  · exact SF.refl

theorem invoke_heap {v : Ref} : (invoke sc cfg w v s).1.heap = s.heap := by
  cases w with
  | direct | rebind => exact callF_heap
  | multi => exact invokeMulti_heap

theorem invoke_store {v : Ref} (hw : WrapOK w s.store) :
    SF s.store (invoke sc cfg w v s).1.store := by
  cases w with
  | direct => exact callF_store
  | multi ps vals i => exact invokeMulti_store
  | rebind p orig pa =>
    refine SF.bracket (N := (· = p)) (fun m hm => ?_) callF_store
      fun m => (lookup_set ..).trans (ite_congr rfl (fun hm => (hm ▸ hw).symm) fun _ => rfl)
    exact (lookup_set ..).trans (if_neg hm)

theorem fr_invoke {v : Ref} (hw : WrapOK w s.store) : Fr P L s (invoke sc cfg w v s).1 :=
  Fr.of_heap_eq invoke_heap (invoke_store hw)

/-- after its write a probe copies and evaluates: no existing cell is touched -/
theorem fr_probe_rest {i : Nat} {d : Int} (hw : WrapOK w s.store) :
    Fr P L (writeAt s x i d) (probe sc cfg w x i d s).1 := by
  have hc : Fr P L (writeAt s x i d) (copyOf (writeAt s x i d) x).1 := fr_copyOf
  refine hc.trans (fr_invoke (WrapOK.of_SF ?_ hc.1))
  rw [writeAt_store]
  exact hw

theorem fr_probe {i : Nat} {d : Int} (hw : WrapOK w s.store) :
    Fr (L ≤ x) L s (probe sc cfg w x i d s).1 :=
  fr_writeAt.trans (fr_probe_rest hw)

/-- write, steps that touch no old cell, write, such steps again, write the old value back: every
    cell below `L` is as before, even when `x` is one of them -/
theorem fr_writeBack {i : Nat} {a b : Int} {s1 s2 : St}
    (f1 : Fr True L (writeAt s x i a) s1) (f2 : Fr True L (writeAt s1 x i b) s2) :
    Fr P L s (writeAt s2 x i (origAt s x i)) := by
  simp only [Fr, writeAt_store, writeAt_length] at f1 f2 ⊢
  refine ⟨f1.1.trans f2.1, fun _ hl => ?_⟩
  obtain ⟨l1, g1⟩ := f1.2 trivial hl
  obtain ⟨l2, g2⟩ := f2.2 trivial l1
  refine ⟨l2, fun r hr => ?_⟩
  by_cases hx : r = x
  · subst hx
    rw [writeAt_get, if_pos rfl, g2 r hr, writeAt_get, if_pos rfl, g1 r hr, writeAt_get, if_pos rfl]
    cases hc : s.heap[r]? with
    | none => rfl
    | some c => simp only [Option.map_some, origAt, hc, set_set_getD]
  · rw [writeAt_get, if_neg hx, g2 r hr, writeAt_get, if_neg hx, g1 r hr, writeAt_get, if_neg hx]

/-- one pass of `numeric_grad`'s loop body puts back what it wrote, even when `x` is the caller's
    own buffer: all the pinned loop has going for it -/
theorem fr_gradIter {i : Nat} (hw : WrapOK w s.store) :
    Fr P L s (writeAt (probe sc cfg w x i (origAt s x i - eps)
      (probe sc cfg w x i (origAt s x i + eps) s).1).1 x i (origAt s x i)) :=
  -- only the store half of `fr_probe` is used, which does not depend on `L`
  fr_writeBack (fr_probe_rest hw) (fr_probe_rest (hw.of_SF (fr_probe (L := 0) hw).1))

theorem fr_gradLoop : ∀ (is : List Nat) (s : St), WrapOK w s.store →
      Fr (L ≤ x ∨ (gradLoop sc cfg w x is s).2 = true) L s (gradLoop sc cfg w x is s).1
  | [], _, _ => Fr.refl
  | i :: is, s, hw => by
    unfold gradLoop
    -- the `let`s of `gradLoop` in order: the element saved, the probes at `orig ± eps`
    extract_lets orig r1 r2
    have h1 : Fr (L ≤ x) L s r1.1 := fr_probe hw
    split
    · have h2 : Fr (L ≤ x) L s r2.1 := h1.trans (fr_probe (hw.of_SF h1.1))
      split
      · have h3 (P : Prop) : Fr P L s (writeAt r2.1 x i orig) := fr_gradIter hw
        exact (h3 _).trans (fr_gradLoop is _ (hw.of_SF (h3 True).1))
      -- a failing exit returns `false`: of the premise only `L ≤ x` is left
      · exact h2.mono (by simp)
    · exact h1.mono (by simp)

theorem fr_numericGrad {v : Variant} {b : Bind} (hw : WrapOK w s.store) :
    Fr (v = .repaired ∨ (numericGrad v sc cfg w b s).2 = true) L s
      (numericGrad v sc cfg w b s).1 := by
  unfold numericGrad
  split
  · exact Fr.refl
  · rename_i s1 x ha
    obtain ⟨h0, hx⟩ := asF64_spec (P := True) (L := L) ha
    exact h0.trans_of_imp (fr_gradLoop _ _ (hw.of_SF h0.1)) (fun _ => trivial)
      fun hp hl => hp.imp_left fun hv => hx hv hl

theorem fr_jacLoop {m : Nat} :
    ∀ (js : List Nat) (s : St), WrapOK w s.store → Fr P L s (jacLoop sc cfg w x m js s).1
  | [], _, _ => Fr.refl
  | j :: js, s, hw => by
    unfold jacLoop
    -- the `let`s of `jacLoop` in order: the element saved, the two perturbed copies, the
    -- evaluations on the first and on the second
    extract_lets orig a b r1 r2
    have hb : Fr P L s b.1 := fr_copyPerturbed.trans fr_copyPerturbed
    have h1 : Fr P L s r1.1 := hb.trans (fr_invoke (hw.of_SF hb.1))
    -- the first evaluation returned `.exc`, `.abort` (the loop stops there) or a value; the same
    -- three for the second; last, whether the column assignment fits (`colOk`)
    split
    · exact h1
    · exact h1
    · have h2 : Fr P L s r2.1 := h1.trans (fr_invoke (hw.of_SF h1.1))
      split
      · exact h2
      · exact h2
      · split
        · exact h2.trans (fr_jacLoop js _ (hw.of_SF h2.1))
        · exact h2

theorem fr_jacNumeric {b : Bind} (hw : WrapOK w s.store) :
    Fr P L s (jacNumeric sc cfg w b s).1 := by
  unfold jacNumeric
  rw [flattenF64_eq]
  split
  · exact Fr.refl
  · rename_i s1 x hf
    -- the `let`s of `jacNumeric`: the copy of the flattened point, the evaluation at it
    extract_lets a r0
    have ha : Fr P L s a.1 := (asF64_spec hf).1.trans fr_copyOf
    have h0 : Fr P L s r0.1 := ha.trans (fr_invoke (hw.of_SF ha.1))
    -- `f0 = func(x)` returned `.exc`, `.abort`, or a value (then the loop runs)
    split
    · exact h0
    · exact h0
    · exact h0.trans (fr_jacLoop _ _ (hw.of_SF h0.1))

theorem fr_jacTorch {b : Bind} (hw : WrapOK w s.store) : Fr P L s (jacTorch sc cfg w b s).1 := by
  unfold jacTorch
  split
  · exact fr_jacNumeric hw
  · rename_i s1 t hg
    extract_lets r
    have h1 : Fr P L s s1 := fr_gradTensor hg
    have h2 : Fr P L s r.1 := h1.trans (fr_invoke (hw.of_SF h1.1))
    -- autograd got a value with its chain, an interrupt (no fallback), else numeric fallback
    split
    · exact h2
    · exact h2
    · exact h2.trans (fr_jacNumeric (hw.of_SF h2.1))

theorem fr_jacOf {be : Backend} {b : Bind} (hw : WrapOK w s.store) :
    Fr P L s (jacOf be sc cfg w b s).1 := by
  cases be
  · exact fr_jacNumeric hw
  · exact fr_jacTorch hw

theorem fr_evalName {n : Name} : Fr P L s (evalName s n).1 := by
  unfold evalName
  split
  · exact Fr.refl
  · exact fr_setStore (SF.set_unbound ‹_›)

theorem fr_evalFn : Fr P L s (evalFn cfg s) := by
  unfold evalFn
  split
  · exact fr_evalName
  · exact Fr.refl

theorem fr_mgradLoop {v : Variant} {ps : List Name} {vals : List Bind} :
    ∀ (is : List Nat) (s : St),
      Fr (v = .repaired ∨ (mgradLoop v sc cfg ps vals is s).2 = true) L s
        (mgradLoop v sc cfg ps vals is s).1
  | [], _ => Fr.refl
  | i :: is, s => by
    unfold mgradLoop
    split
    · exact Fr.refl
    · -- `r`: the gradient with respect to the `i`-th parameter
      extract_lets r
      have h1 : Fr (v = .repaired ∨ r.2 = true) L s r.1 :=
        fr_numericGrad (w := .multi ps vals i) trivial
      split
      · rename_i hok
        exact (h1.mono fun _ => Or.inr hok).trans (fr_mgradLoop is _)
      · exact h1.mono (Or.imp_right (by simp))

theorem fr_gradTensors :
    ∀ (bs : List Bind) (s : St) {s1 : St} {ts : List Bind},
      gradTensors bs s = some (s1, ts) → Fr P L s s1
  | [], s, _, _, h => by
    cases h
    exact Fr.refl
  | b :: bs, s, _, _, h => by
    rw [gradTensors] at h
    split at h
    · cases h
    · rename_i s2 t hg
      split at h
      · cases h
      · rename_i hgs
        cases h
        exact (fr_gradTensor hg).trans (fr_gradTensors bs s2 hgs)

theorem fr_mjacLoop {be : Backend} :
    ∀ (l : List (Name × Bind)) (s : St), Fr P L s (mjacLoop be sc cfg l s).1
  | [], _ => Fr.refl
  | (p, val) :: rest, s => by
    unfold mjacLoop
    split
    · exact Fr.refl
    · rename_i original ho
      extract_lets r
      have hw : WrapOK (.rebind p original false) s.store := ho
      have h1 : Fr P L s r.1 := fr_jacOf hw
      split
      · exact (h1.trans (fr_setStore (SF.set_same (hw.of_SF h1.1)))).trans (fr_mjacLoop rest _)
      · exact h1

/-- Every form, on every path: the store is framed; the heap the caller had is untouched if the
    loop works on a private copy (repaired) or if the expression returns normally.  `L` is free:
    `0` reads off the store alone, `s.heap.length` the whole heap (`Fr.pure`). -/
theorem fr_runForm (v : Variant) (be : Backend) (form : Form) (sc : Script) (cfg : Cfg) (s : St) :
    Fr (v = .repaired ∨ (runForm v be form sc cfg s).2 = true) L s
      (runForm v be form sc cfg s).1 := by
  unfold runForm
  cases form with
  | gradPoint p =>
    cases be with
    | numpy => exact (fr_evalFn.trans fr_evalName).trans (fr_numericGrad (w := .direct) trivial)
    | torch =>
      dsimp only
      split
      · exact fr_evalFn.trans fr_evalName
      · rename_i hg
        exact ((fr_evalFn.trans fr_evalName).trans (fr_gradTensor hg)).trans
          (Fr.of_heap_eq callF_heap callF_store)
  | nablaSym p =>
    dsimp only
    split
    · exact fr_evalFn
    · rename_i orig ho
      exact fr_evalFn.trans (fr_numericGrad (w := .rebind p orig true) ho)
  | jacPoint p => exact (fr_evalFn.trans fr_evalName).trans (fr_jacOf (w := .direct) trivial)
  | multiGrad ps =>
    dsimp only
    split
    · exact fr_evalFn
    · cases be with
      | numpy => exact fr_evalFn.trans (fr_mgradLoop _ _)
      | torch =>
        dsimp only
        split
        · exact fr_evalFn
        · rename_i hg
          exact (fr_evalFn.trans (fr_gradTensors _ _ hg)).trans
            (Fr.of_heap_eq invokeMulti_heap invokeMulti_store)
  | multiJac ps =>
    dsimp only
    split
    · exact fr_evalFn
    · exact fr_evalFn.trans (fr_mjacLoop _ _)

theorem fr_runOps (v : Variant) :
    ∀ (ops : List GradOp) (s : St), Fr (v = .repaired) L s (runOps v ops s)
  | [], _ => Fr.refl
  | op :: ops, s =>
    ((fr_runForm v op.be op.form op.sc op.cfg s).mono Or.inl).trans (fr_runOps v ops _)

end

theorem Fr.cell_eq {P : Prop} {s s' : St} (h : Fr P s.heap.length s s') (hp : P) {r : Nat}
    (hr : r < s.heap.length) : s'.heap[r]? = s.heap[r]? :=
  (h.2 hp (Nat.le_refl _)).2 r hr

/-- what a frame over the whole heap says once its premise holds -/
theorem Fr.pure {P : Prop} {s s' : St} (h : Fr P s.heap.length s s') (hp : P) :
    (∀ n b, lookup s.store n = some b → lookup s'.store n = some b) ∧
    (∀ (r : Nat) (c : Cell), s.heap[r]? = some c → s'.heap[r]? = some c) ∧
    (∀ n, lookup s.store n = none →
      lookup s'.store n = none ∨ lookup s'.store n = some (.sym n)) := by
  refine ⟨fun _ _ => h.1.bound, fun r c hc => ?_, fun _ => h.1.unbound⟩
  rw [h.cell_eq hp (List.getElem?_eq_some_iff.mp hc).1]
  exact hc

/-- **restore on all paths** (pinned and repaired loop, both backends, every form, every script —
    i.e. failure at every k — whether the run returns or raises): every name bound before the
    gradient expression is bound to the very same object afterwards; a name that was unbound is
    still unbound or bound to itself. -/
theorem restore_on_all_paths (v : Variant) (be : Backend) (form : Form) (sc : Script) (cfg : Cfg) (s : St) :
    (∀ n b, lookup s.store n = some b → lookup (runForm v be form sc cfg s).1.store n = some b) ∧
    (∀ n, lookup s.store n = none →
      lookup (runForm v be form sc cfg s).1.store n = none ∨
      lookup (runForm v be form sc cfg s).1.store n = some (.sym n)) :=
  have h := (fr_runForm (L := 0) v be form sc cfg s).1
  ⟨fun _ _ => h.bound, fun _ => h.unbound⟩

/-- **grad_pure** (repaired loop): for every form, backend, script and initial state, on return
    and on every failure path: the store is as in `restore_on_all_paths`, and every heap cell
    that existed before has the same kind, shape and contents. -/
theorem grad_pure (be : Backend) (form : Form) (sc : Script) (cfg : Cfg) (s : St) :
    (∀ n b, lookup s.store n = some b →
      lookup (runForm .repaired be form sc cfg s).1.store n = some b) ∧
    (∀ (r : Nat) (c : Cell), s.heap[r]? = some c → (runForm .repaired be form sc cfg s).1.heap[r]? = some c) ∧
    (∀ n, lookup s.store n = none →
      lookup (runForm .repaired be form sc cfg s).1.store n = none ∨
      lookup (runForm .repaired be form sc cfg s).1.store n = some (.sym n)) :=
  (fr_runForm .repaired be form sc cfg s).pure (Or.inl rfl)

/-- the same for any number of gradient expressions in a row, each with its own form, backend
    and script, each returning or raising -/
theorem grad_pure_sequence (ops : List GradOp) (s : St) :
    (∀ n b, lookup s.store n = some b → lookup (runOps .repaired ops s).store n = some b) ∧
    (∀ (r : Nat) (c : Cell), s.heap[r]? = some c → (runOps .repaired ops s).heap[r]? = some c) ∧
    (∀ n, lookup s.store n = none →
      lookup (runOps .repaired ops s).store n = none ∨
      lookup (runOps .repaired ops s).store n = some (.sym n)) :=
  (fr_runOps .repaired ops s).pure rfl

def WF (s : St) : Prop := ∀ n r, lookup s.store n = some (.ref r) → r < s.heap.length

theorem Fr.viewN_eq {P : Prop} {s s' : St} (h : Fr P s.heap.length s s') (hp : P) (hwf : WF s)
    (n : Name) (hn : (lookup s.store n).isSome) : viewN s' n = viewN s n := by
  cases hb : lookup s.store n with
  | none =>
    rw [hb] at hn
    cases hn
  | some b =>
    simp only [viewN, h.1.bound hb, hb, Option.map_some]
    cases b with
    | sym m => rfl
    | ref r => simp only [viewB, h.cell_eq hp (hwf n r hb)]

theorem Fr.observe_eq {P : Prop} {s s' : St} (h : Fr P s.heap.length s s') (hp : P) (hwf : WF s)
    (cfg : Cfg) (hw : ∀ n ∈ cfg.watch, (lookup s.store n).isSome)
    (arg : Option Ref) (ha : ∀ r, arg = some r → r < s.heap.length) :
    observe cfg arg s' = observe cfg arg s := by
  unfold observe
  congr 1
  · cases arg with
    | none => rfl
    | some r => simp only [Option.map_some, viewB, h.cell_eq hp (ha r rfl)]
  · exact List.map_congr_left fun n hn => by rw [h.viewN_eq hp hwf n (hw n hn)]

/-- value *and kind* of every variable are what they were -/
theorem grad_pure_values (be : Backend) (form : Form) (sc : Script) (cfg : Cfg) (s : St)
    (hwf : WF s) (n : Name) (hn : (lookup s.store n).isSome) :
    viewN (runForm .repaired be form sc cfg s).1 n = viewN s n :=
  (fr_runForm .repaired be form sc cfg s).viewN_eq (Or.inl rfl) hwf n hn

/-- a following evaluation of the function — applied to any pre-existing object, reading any
    pre-existing globals — sees exactly what it would have seen before the gradient expression -/
theorem next_evaluation_sees_same (be : Backend) (form : Form) (sc : Script) (cfg cfg' : Cfg) (s : St)
    (hwf : WF s) (hw : ∀ n ∈ cfg'.watch, (lookup s.store n).isSome)
    (arg : Option Ref) (ha : ∀ r, arg = some r → r < s.heap.length) :
    observe cfg' arg (runForm .repaired be form sc cfg s).1 = observe cfg' arg s :=
  (fr_runForm .repaired be form sc cfg s).observe_eq (Or.inl rfl) hwf cfg' hw arg ha

/-! ### the pinned loop is not pure: `np.asarray` aliases a float64 parameter -/

/-- `p::[1.0 2.0 3.0]`, loss raising at its 2nd evaluation -/
def witnessState : St := { store := [("p", .ref 0)], heap := [⟨.f64, [3], [1000000, 2000000, 3000000]⟩] }
def witnessScript : Script := fun k _ => if k = 1 then .raise else .scalar

/-- On the pinned tree `f:>p` (and `p∇f`, `g:>[p]`) leaves `p` as `[0.999999 2 3]` when the loss
    raises at its second call. -/
theorem pinned_not_pure :
    (runForm .pinned .numpy (.gradPoint "p") witnessScript ⟨["p"], none⟩ witnessState).1.heap[0]?
      = some ⟨.f64, [3], [999999, 2000000, 3000000]⟩ ∧
    (runForm .pinned .numpy (.nablaSym "p") witnessScript ⟨["p"], none⟩ witnessState).1.heap[0]?
      = some ⟨.f64, [3], [999999, 2000000, 3000000]⟩ ∧
    (runForm .pinned .numpy (.multiGrad ["p"]) witnessScript ⟨["p"], none⟩ witnessState).1.heap[0]?
      = some ⟨.f64, [3], [999999, 2000000, 3000000]⟩ ∧
    (runForm .repaired .numpy (.gradPoint "p") witnessScript ⟨["p"], none⟩ witnessState).1.heap[0]?
      = witnessState.heap[0]? := by
  decide

/-- **partial** (what the pinned tree does satisfy): for BOTH variants of the loop, when the
    gradient expression returns normally every pre-existing heap cell is unchanged (the in-place
    perturbation of an aliased float64 point is undone after the two probes).  The failure paths
    are where the pinned loop breaks (`pinned_not_pure`). -/
theorem pinned_pure_on_success_partial (v : Variant) (be : Backend) (form : Form) (sc : Script) (cfg : Cfg)
    (s : St) (hok : (runForm v be form sc cfg s).2 = true) :
    ∀ (r : Nat) (c : Cell), s.heap[r]? = some c → (runForm v be form sc cfg s).1.heap[r]? = some c :=
  ((fr_runForm v be form sc cfg s).pure (Or.inr hok)).2.1

/-- the pinned loop, aliased float64 point, loss never failing: six evaluations, returns, and the
    point is intact -/
example :
    (runForm .pinned .numpy (.gradPoint "p") (fun _ _ => .scalar) ⟨["p"], none⟩ witnessState).2 = true ∧
    (runForm .pinned .numpy (.gradPoint "p") (fun _ _ => .scalar) ⟨["p"], none⟩ witnessState).1.calls = 6 ∧
    (runForm .pinned .numpy (.gradPoint "p") (fun _ _ => .scalar) ⟨["p"], none⟩ witnessState).1.heap[0]?
      = witnessState.heap[0]? := by
  decide

example : WF witnessState := by
  intro n r h
  simp only [witnessState, lookup] at h
  split at h
  · cases h
    decide
  · cases h

/-- the repaired run on the witness really probes (two evaluations, then the failure) and the
    rebinding form really rebinds `p` during a probe -/
example : (runForm .repaired .numpy (.nablaSym "p") witnessScript ⟨["p"], none⟩ witnessState).1.calls = 2 ∧
    (runForm .repaired .numpy (.nablaSym "p") witnessScript ⟨["p"], none⟩ witnessState).2 = false ∧
    ((runForm .repaired .numpy (.nablaSym "p") witnessScript ⟨["p"], none⟩ witnessState).1.log.map
      (·.globals)) =
      [[("p", some (.cell ⟨.f64, [3], [1000001, 2000000, 3000000]⟩))],
       [("p", some (.cell ⟨.f64, [3], [999999, 2000000, 3000000]⟩))]] := by
  decide

/-- torch: the parameters are bound to gradient-tracking tensors during the evaluation and are
    plain again afterwards -/
example :
    let s : St := { store := [("w", .ref 0), ("b", .ref 1)],
                    heap := [⟨.t32, [2], [1000000, 2000000]⟩, ⟨.pyfloat, [], [500000]⟩] }
    let r := runForm .repaired .torch (.multiGrad ["w", "b"]) (fun _ _ => .vector) ⟨["w", "b"], none⟩ s
    r.2 = false ∧
    r.1.log.map (·.globals) =
      [[("w", some (.cell ⟨.t32g, [2], [1000000, 2000000]⟩)), ("b", some (.cell ⟨.t32g, [], [500000]⟩))]] ∧
    viewN r.1 "w" = some (.cell ⟨.t32, [2], [1000000, 2000000]⟩) ∧
    viewN r.1 "b" = some (.cell ⟨.pyfloat, [], [500000]⟩) := by
  decide

/-- an interrupt (a BaseException that is not an Exception) ends the torch Jacobian probe: the
    `except Exception` fallback is not taken (one evaluation; an ordinary raise gives two), `w` is a
    gradient-tracking tensor during the evaluation and what it was afterwards -/
example :
    let s : St := { store := [("w", .ref 0)], heap := [⟨.t32, [2], [1000000, 2000000]⟩] }
    let r := runForm .repaired .torch (.multiJac ["w"]) (fun _ _ => .interrupt) ⟨["w"], none⟩ s
    let r' := runForm .repaired .torch (.multiJac ["w"]) (fun _ _ => .raise) ⟨["w"], none⟩ s
    r.2 = false ∧ r.1.calls = 1 ∧ r'.1.calls = 2 ∧
    r.1.log.map (·.globals) = [[("w", some (.cell ⟨.t32g, [2], [1000000, 2000000]⟩))]] ∧
    viewN r.1 "w" = some (.cell ⟨.t32, [2], [1000000, 2000000]⟩) := by
  decide

end Klong.C07
